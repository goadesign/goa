import GoaVerif.Lemmas.List
/-
C05 / C07 — how the HTTP generators write a designed status code into Go source
(http/codegen/funcs.go statusCodeToHTTPConst): the name of a net/http constant when the table
statusCodeToConst has an entry for the code, the decimal number otherwise. The table and the values of
the net/http constants are regenerated from /repo and the Go installation (Generated/FactsStatus.lean).
-/
namespace GoaVerif.StatusConst

/-- the expression written into the generated file -/
inductive SExpr where
  | const (name : String)   -- http.<name>
  | lit (n : Nat)           -- the number itself
deriving Repr, DecidableEq

/-- statusCodeToHTTPConst over a table (a Go map literal: its keys are distinct, or the package does not compile) -/
def emit (table : List (Nat × String)) (code : Nat) : SExpr :=
  match table.lookup code with
  | some n => .const n
  | none => .lit code

/-- what the Go compiler makes of the expression, given the constants of net/http -/
def eval (env : List (String × Nat)) : SExpr → Option Nat
  | .const n => env.lookup n
  | .lit n => some n

/-- printed form -/
def SExpr.show : SExpr → String
  | .const n => "http." ++ n
  | .lit n => toString n

/-- every entry of the table names a constant whose value is the entry's key -/
def tableOK (table : List (Nat × String)) (env : List (String × Nat)) : Bool :=
  table.all fun e => env.lookup e.2 == some e.1

/-- The expression written for a designed status denotes that status, for every status code. -/
theorem emit_eval (table : List (Nat × String)) (env : List (String × Nat)) (h : tableOK table env = true) (c : Nat) :
    eval env (emit table c) = some c := by
  unfold emit
  cases hl : table.lookup c with
  | none => rfl
  | some n =>
    have hm := mem_of_lookup hl
    have := (List.all_eq_true.mp h) (c, n) hm
    simpa [eval] using this

end GoaVerif.StatusConst
