import GoaVerif.Model.Formats
import GoaVerif.Lemmas.PatternCache
import GoaVerif.Generated.FactsValidation
/-!
# C17 — format and pattern validators: property theorems
Models: `Model/Formats.lean` (dispatch with library oracles, goa's own two regexes, spec
recognisers) and `Model/PatternCache.lean` (cache as an interleaving transition system).
Ties: T2 facts regenerated from pkg/validation.go (`Generated/FactsValidation.lean`), T3
correspondence `rtfmt` ↔ `drv_fmt`.
-/
namespace GoaVerif.Props.C17
open GoaVerif.Formats GoaVerif.PatternCache GoaVerif.Generated

/-! ### relations between the IP formats, for every behaviour of the library parsers -/

/-- An IP is an IPv4 or an IPv6 address … -/
theorem ip_iff (o : Oracles) (v : String) :
    ipAccepts o .ip v = (ipAccepts o .ipv4 v || ipAccepts o .ipv6 v) := by
  unfold ipAccepts
  cases o.parseIP v <;> cases o.ipv4Re v <;> decide

/-- … and never both. -/
theorem ip_not_both (o : Oracles) (v : String) :
    (ipAccepts o .ipv4 v && ipAccepts o .ipv6 v) = false := by
  unfold ipAccepts
  cases o.parseIP v <;> cases o.ipv4Re v <;> decide

/-- `ipv4` and `ipv6` each imply `ip`. -/
theorem ip_of_family (o : Oracles) (v : String) (f : Fmt) (hf : f = .ipv4 ∨ f = .ipv6)
    (h : ipAccepts o f v = true) : ipAccepts o .ip v = true := by
  rw [ip_iff, Bool.or_eq_true]
  rcases hf with rfl | rfl
  · exact .inl h
  · exact .inr h

/-! ### the dispatch is total over exactly the named formats (tables regenerated from /repo) -/

/-- the 14 `Format*` constants are exactly the case labels of `ValidateFormat`, the switch
    has an erroring default, and the model dispatches every one of them -/
theorem format_table :
    FactsValidation.formatCases = FactsValidation.formatConstants ∧
    FactsValidation.formatDefaultErrors = true ∧
    FactsValidation.formatConstants.length = 14 ∧
    FactsValidation.formatConstants.all (fun n => (fmtOfName n).isSome) = true := by decide +kernel

/-- any other name is an error, never an acceptance -/
theorem format_unknown (o : Oracles) (name v : String) (h : fmtOfName name = none) :
    validateFormat o name v = false := by
  unfold validateFormat; rw [h]

theorem format_known (o : Oracles) (name v : String) (h : validateFormat o name v = true) :
    ∃ f, fmtOfName name = some f ∧ accepts o f v = true := by
  unfold validateFormat at h
  split at h
  · exact ⟨_, ‹_›, h⟩
  · cases h

/-! ### goa's own regular expressions -/

/-- the recognisers in `Model/Formats.lean` were written from exactly these literals -/
theorem regex_text_pinned :
    FactsValidation.hostnameRegexSrc = hostnameRegexText ∧
    FactsValidation.ipv4RegexSrc = ipv4RegexText := ⟨rfl, rfl⟩

theorem midThenAlnum_cons (n : Nat) (c : Char) (cs : List Char) :
    midThenAlnum n (c :: cs) =
      (isAlnum c || match n with | 0 => false | k + 1 => isAlnumDash c && midThenAlnum k cs) := by
  cases n <;> rfl

theorem midThenAlnum_nil (n : Nat) : midThenAlnum n [] = false := by
  cases n <;> rfl

theorem midThenAlnum_iff (n : Nat) (l : List Char) :
    midThenAlnum n l = true ↔
      ∃ k, k ≤ n ∧ (l.take k).all isAlnumDash = true ∧ ∃ c, l[k]? = some c ∧ isAlnum c = true := by
  induction l generalizing n with
  | nil => rw [midThenAlnum_nil]; exact ⟨nofun, by rintro ⟨_, _, _, _, ⟨⟩, _⟩⟩
  | cons c cs ih =>
    rw [midThenAlnum_cons, Bool.or_eq_true]
    constructor
    · rintro (h | h)
      · exact ⟨0, Nat.zero_le _, rfl, c, rfl, h⟩
      · cases n with
        | zero => cases h
        | succ n =>
          obtain ⟨h1, h2⟩ := Bool.and_eq_true_iff.mp h
          obtain ⟨k, hk, hall, d, hd, ha⟩ := (ih n).mp h2
          exact ⟨k + 1, Nat.succ_le_succ hk, Bool.and_eq_true_iff.mpr ⟨h1, hall⟩, d, hd, ha⟩
    · rintro ⟨k, hk, hall, d, hd, ha⟩
      cases k with
      | zero => cases hd; exact .inl ha
      | succ k =>
        cases n with
        | zero => cases hk
        | succ n =>
          obtain ⟨h1, h2⟩ := Bool.and_eq_true_iff.mp hall
          exact .inr (Bool.and_eq_true_iff.mpr ⟨h1, (ih n).mpr ⟨k, Nat.le_of_succ_le_succ hk, h2, d, hd, ha⟩⟩)

/-- **Exact characterisation of the hostname regex as written.** It accepts a string iff
    it *starts* with an alphanumeric, up to 61 alphanumerics or hyphens and another
    alphanumeric (whatever follows), or merely *ends* with a letter. -/
theorem hostname_regex_char (cs : List Char) :
    hostnameRe cs = true ↔
      (∃ c rest k, cs = c :: rest ∧ isAlnum c = true ∧ k ≤ 61 ∧
          (rest.take k).all isAlnumDash = true ∧ ∃ d, rest[k]? = some d ∧ isAlnum d = true) ∨
      (∃ c, cs.getLast? = some c ∧ isAlpha c = true) := by
  unfold hostnameRe
  rw [Bool.or_eq_true]
  refine or_congr ?_ ?_
  · cases cs with
    | nil => exact ⟨nofun, by rintro ⟨_, _, _, ⟨⟩, _⟩⟩
    | cons c rest =>
      rw [Bool.and_eq_true, midThenAlnum_iff]
      constructor
      · rintro ⟨hc, k, h⟩; exact ⟨c, rest, k, rfl, hc, h⟩
      · rintro ⟨_, _, k, ⟨⟩, hc, h⟩; exact ⟨hc, k, h⟩
  · cases cs.getLast? with
    | none => exact ⟨nofun, by rintro ⟨_, ⟨⟩, _⟩⟩
    | some c =>
      constructor
      · exact fun h => ⟨c, rfl, h⟩
      · rintro ⟨_, ⟨⟩, h⟩; exact h

/-- …which is not the host name format: it accepts strings that are not host names and
    rejects some that are (known finding; the regex text is pinned by goa's own test). -/
theorem hostname_regex_not_spec :
    (hostnameRe "ab cd!!".toList = true ∧ isHostname "ab cd!!".toList = false) ∧
    (hostnameRe "foo_bar.com".toList = true ∧ isHostname "foo_bar.com".toList = false) ∧
    (hostnameRe "a.1".toList = false ∧ isHostname "a.1".toList = true) := by decide +kernel

theorem isGroup13_of_isOctet {g : List Char} (hg : isOctet g = true) : isGroup13 g = true := by
  -- `isOctet g` is `isGroup13 g && numVal g ≤ 255 && (no leading zero)`
  rw [isOctet, Bool.and_eq_true, Bool.and_eq_true] at hg
  exact hg.1.1

/-- every dotted quad of the specification matches goa's IPv4 regex (so the `ipv4` verdict
    is decided by `net.ParseIP`, and `ipv6` rejects exactly the dotted forms) -/
theorem ipv4_spec_matches_regex (cs : List Char) (h : isIPv4 cs = true) : ipv4Re cs = true := by
  unfold isIPv4 at h
  unfold ipv4Re
  split at h
  · simp only [Bool.and_eq_true] at h ⊢
    exact ⟨⟨⟨isGroup13_of_isOctet h.1.1.1, isGroup13_of_isOctet h.1.1.2⟩, isGroup13_of_isOctet h.1.2⟩,
      isGroup13_of_isOctet h.2⟩
  · cases h

/-! ### the pattern cache: verdicts do not depend on history or schedule -/

/-- Under every interleaving of the atomic steps of any number of concurrent calls, the
    cache only ever maps a pattern to its own compiled form. -/
theorem pattern_cache_inv {R} (W : World R) (s : State R) (sched : List Nat) (h : Inv W s) :
    CacheOK W (run W s sched).cache := (run_inv W s sched h).1

/-- Every verdict is `match (compile p) v` of the call's own arguments, whatever calls ran
    before or run concurrently, and whatever (consistent) cache the run started from. -/
theorem pattern_verdict_pure {R} (W : World R) (s : State R) (sched : List Nat) (h : Inv W s)
    (t : Thread R) (ht : t ∈ (run W s sched).threads) (b : Bool) (hb : t.pc = .done b) :
    b = W.isMatch (W.compile t.p) t.v := by
  have := (run_inv W s sched h).2 t ht
  rwa [ThreadOK, hb] at this

/-- the calls themselves are not disturbed by the scheduler -/
theorem pattern_calls_stable {R} (W : World R) (s : State R) (sched : List Nat) :
    (run W s sched).threads.map (fun t => (t.p, t.v)) = s.threads.map (fun t => (t.p, t.v)) :=
  run_calls W s sched

/-- any state whose cache is empty (process start) and whose calls have not begun is consistent -/
theorem init_inv {R} (W : World R) (calls : List (String × String)) :
    Inv W ⟨[], calls.map (fun c => ⟨c.1, c.2, .start⟩)⟩ := by
  refine ⟨fun _ he => (nomatch he), fun t ht => ?_⟩
  obtain ⟨c, _, rfl⟩ := List.mem_map.mp ht
  exact trivial

/-- Lock discipline and key discipline of the real code (facts regenerated from /repo):
    `knownPatterns` is touched only inside `ValidatePattern`, reads hold the read or write
    lock, writes hold the write lock, the key is always the pattern parameter, and the value
    stored is `regexp.MustCompile` of that same parameter — the shape `stepThread` models. -/
theorem pattern_lockset :
    FactsValidation.knownPatternsAccesses.all (fun a =>
      a.func == "ValidatePattern" && a.key == "$2" &&
      ((a.kind == "read" && (a.lock == "RLock" || a.lock == "Lock")) ||
       (a.kind == "write" && a.lock == "Lock" && a.rhs == "regexp.MustCompile($2)"))) = true ∧
    FactsValidation.knownPatternsAccesses.any (fun a => a.kind == "write") = true := by decide +kernel

/-! ### Non-vacuity -/
def exW : World (List Char) := ⟨fun p => p.toList, fun r v => r.isPrefixOf v.toList⟩
example : (run exW ⟨[], [⟨"a", "ab", .start⟩, ⟨"a", "ba", .start⟩]⟩ [0, 1, 1, 0, 0, 1, 1]).threads.map
    (fun t => match t.pc with | .done b => some b | _ => none) = [some true, some false] := by decide +kernel
example : isDate "2024-02-29".toList = true ∧ isDate "2023-02-29".toList = false := by decide +kernel
example : isIPv4 "192.168.0.1".toList = true ∧ isIPv4 "192.168.00.1".toList = false ∧ isIPv4 "::ffff:1.2.3.4".toList = false := by decide +kernel
example : isUUID "6ba7b810-9dad-11d1-80b4-00c04fd430c8".toList = true ∧
    isUUID "x6ba7b810-9dad-11d1-80b4-00c04fd430c8y".toList = false := by decide +kernel

end GoaVerif.Props.C17
