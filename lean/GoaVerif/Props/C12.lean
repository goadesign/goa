import GoaVerif.Model.Closure
import GoaVerif.Lemmas.List
import GoaVerif.Generated.FactsDSL
/-!
# C12 — a DSL program yields a design or located errors; accepted designs have no dangling references

Decided partially by proof (DESIGN.md): the engine-level guarantees are C11's theorems; here
* `dsl_functions_guarded` — over the table of every exported DSL function regenerated from /repo:
  every type switch on the expression being built has a default branch, none asserts its type
  unchecked, and every function that inspects it can report;
* `accepted_closed` — the reference checks as a specification: in a closed design each mapped
  attribute, response attribute, error response, scheme and view resolves (the converse is not
  stated); the real engine's accept/reject is compared with `closed` on designs with one injected
  dangling name (vlib/c12.py), and every accepted random program is walked for unresolved references.
The universal "no call sequence panics or diverges" is searched, not proved: rtdsl runs programs
assembled from all exported DSL functions.
-/
namespace GoaVerif.Props.C12
open GoaVerif.Closure GoaVerif.Generated.FactsDSL

theorem missingFrom_nil_iff (kind owner : String) (names within : List String) :
    missingFrom kind owner names within = [] ↔ ∀ n ∈ names, n ∈ within := by
  rw [missingFrom, List.map_eq_nil_iff, filter_not_contains_eq_nil]

/-- what a response may map when no view is fixed on the result: attributes of the result that every view selects -/
theorem respUsable_all_views (m : Method) (h : m.resultView = none) (a : String) (ha : a ∈ respUsable m) :
    a ∈ m.result ∧ ∀ va ∈ m.viewAttrs, a ∈ va.2 := by
  unfold respUsable at ha
  rw [h] at ha
  simp only [List.mem_filter, List.all_eq_true] at ha
  exact ⟨ha.1, fun va hva => by simpa using ha.2 va hva⟩

/-- … and with a view fixed on the result: the attributes of that view -/
theorem respUsable_fixed_view (m : Method) (v : String) (attrs : List String) (h : m.resultView = some v)
    (hl : m.viewAttrs.lookup v = some attrs) : respUsable m = attrs := by
  unfold respUsable
  rw [h]; simp [hl]

theorem danglingAttrView_nil_iff (av : AttrView) : danglingAttrView av = [] ↔ av.view ∈ av.views := by
  unfold danglingAttrView; split <;> simp_all

/-- **No dangling reference is accepted**: a closed design resolves every name it uses. -/
theorem accepted_closed (d : Design) (h : closed d = true) :
    (∀ e ∈ d.httpErrors, e ∈ d.errors) ∧ (∀ x ∈ d.apiSchemes, x ∈ d.schemes) ∧
    (∀ av ∈ d.attrViews, av.view ∈ av.views) ∧
    ∀ s ∈ d.services,
      (∀ e ∈ s.httpErrors, e ∈ s.errors ++ d.errors) ∧ (∀ x ∈ s.schemes, x ∈ d.schemes) ∧
      ∀ m ∈ s.methods,
        (∀ a ∈ m.params ++ m.headers ++ m.cookies ++ m.body, a ∈ m.payload) ∧
        (∀ a ∈ m.respAttrs, a ∈ respUsable m) ∧
        (∀ e ∈ m.httpErrors, e ∈ m.errors ++ s.errors ++ d.errors) ∧
        (∀ x ∈ m.schemes, x ∈ d.schemes) ∧
        (∀ v, m.resultView = some v → v ∈ m.views) := by
  -- `dangling d = []` taken apart: every list of missing names is empty
  simp only [closed, List.isEmpty_iff, dangling, danglingService, danglingMethod, List.append_eq_nil_iff,
    List.flatMap_eq_nil_iff, missingFrom_nil_iff, danglingAttrView_nil_iff] at h
  obtain ⟨⟨⟨h1, h2⟩, h3⟩, h4⟩ := h
  refine ⟨h1, h2, h4, fun s hs => ?_⟩
  obtain ⟨⟨hs1, hs2⟩, hs3⟩ := h3 s hs
  refine ⟨hs1, hs2, fun m hm => ?_⟩
  obtain ⟨⟨⟨⟨⟨⟨⟨p1, p2⟩, p3⟩, p4⟩, p5⟩, p6⟩, p7⟩, p8⟩ := hs3 m hm
  refine ⟨fun a ha => ?_, p5, p6, p7, fun v hv => ?_⟩
  · simp only [List.mem_append] at ha
    rcases ha with ((ha | ha) | ha) | ha
    · exact p1 a ha
    · exact p2 a ha
    · exact p3 a ha
    · exact p4 a ha
  · simp only [hv] at p8
    by_cases hc : m.views.contains v = true
    · exact List.contains_iff_mem.mp hc
    · rw [if_neg hc] at p8; cases p8

/-- and one unresolved name is enough to refuse: every reported reference really is unresolved -/
theorem dangling_sound_method (d : Design) (s : Service) (m : Method) (x : Dangling)
    (hx : x ∈ missingFrom "header" (s.name ++ "." ++ m.name) m.headers m.payload) :
    x.name ∈ m.headers ∧ x.name ∉ m.payload := by
  unfold missingFrom at hx
  obtain ⟨n, hn, rfl⟩ := List.mem_map.mp hx
  obtain ⟨h1, h2⟩ := List.mem_filter.mp hn
  exact ⟨h1, by simpa using h2⟩

/-! ### every exported DSL function looks before it touches -/
def guarded (f : DSLFunc) : Bool :=
  f.switches == f.switchesWithDefault && f.unchecked == 0 &&
  (f.switches + f.checked == 0 || f.reports + f.incompatible > 0)

/-- functions that do nothing at all when misplaced (a checked assertion without an `else`): the
    call is ignored and no error is recorded — allowed by the property (no crash, the design is
    judged without the call), listed so that a new silent function is noticed -/
def silentWhenMisplaced : List String := ["Email", "MaxLength", "MinLength"]

theorem dsl_functions_guarded : dslFuncs.all (fun f => guarded f || silentWhenMisplaced.contains f.name) = true := by decide +kernel

theorem dsl_surface_seen : 100 ≤ dslFuncs.length := by decide +kernel

/-! ### Non-vacuity -/
def m0 : Method := ⟨"show", ["id", "token"], ["name"], ["not_found"], ["id"], ["token"], [], [], ["name"], ["not_found", "busy"], ["jwt"], some "tiny", ["default", "tiny"],
  [("default", ["name", "note"]), ("tiny", ["name"])]⟩
def d0 : Design := ⟨["jwt"], ["api_down"], ["api_down"], [], [⟨"svc", ["busy"], ["busy"], [], [m0]⟩], [⟨"Item.owner", "tiny", ["default", "tiny"]⟩]⟩
example : closed d0 = true := by decide +kernel
example : dangling { d0 with schemes := [] } = [⟨"scheme", "svc.show", "jwt"⟩] := by decide +kernel
example : dangling { d0 with attrViews := [⟨"Item.owner", "tiny", ["default", "tiny"]⟩, ⟨"Item.other", "nope", ["default", "tiny"]⟩] }
    = [⟨"attribute-view", "Item.other", "nope"⟩] := by decide +kernel
/-- an attribute the type has but not every view selects cannot be mapped by a response (no view fixed) -/
example : dangling { d0 with services := [⟨"svc", ["busy"], ["busy"], [], [{ m0 with resultView := none, result := ["name", "note"], respAttrs := ["note"] }]⟩] }
    = [⟨"response-attribute", "svc.show", "note"⟩] := by decide +kernel
example : dangling { d0 with services := [⟨"svc", [], [], [], [{ m0 with headers := ["zz"] }]⟩] }
    = [⟨"header", "svc.show", "zz"⟩, ⟨"error-response", "svc.show", "busy"⟩] := by decide +kernel

end GoaVerif.Props.C12
