import GoaVerif.Lemmas.StatusConst
import GoaVerif.Generated.FactsStatus
/-!
# C05, C07 — the status the generated server writes is the status the design assigns
The HTTP generators turn every designed status code (success responses, error responses, redirects)
into Go source through `statusCodeToHTTPConst`. `Generated/FactsStatus.lean` is regenerated on every run
from /repo (the map literal `statusCodeToConst`, the printed body of the function, the sites that fill a
`StatusCode` field) and from the Go installation (the constants of net/http).
-/
namespace GoaVerif.Props.Status
open GoaVerif.StatusConst GoaVerif.Generated.FactsStatus

/-- Every entry of /repo's table names a net/http constant with the entry's value. -/
theorem table_names_the_right_constants : tableOK statusTable httpConsts = true :=
  tableOKByKey_eq .. ▸ by decide +kernel

/-- **For every status code** the expression the generators write denotes that code: the server answers
    (and the client expects) the designed status, whether net/http names it or not. -/
theorem status_written_is_status_designed (c : Nat) : eval httpConsts (emit statusTable c) = some c :=
  emit_eval statusTable httpConsts table_names_the_right_constants c

/-- The function in /repo is the lookup `emit` models: table entry → `http.<name>`, otherwise the number. -/
theorem function_is_the_modelled_lookup :
    statusFnBody = "{\n\tif v, ok := statusCodeToConst[statusCode]; ok {\n\t\treturn fmt.Sprintf(\"http.%s\", v)\n\t}\n\treturn fmt.Sprintf(\"%d\", statusCode)\n}" := by
  rfl

/-- Every site of http/codegen that fills a `StatusCode` of the template data goes through the function
    (the first one copies a value that already did). -/
theorem every_site_uses_the_function :
    statusSites = ["e.Response.StatusCode", "statusCodeToHTTPConst(httpEndpoint.Redirect.StatusCode)",
      "statusCodeToHTTPConst(resp.StatusCode)", "statusCodeToHTTPConst(s.Redirect.StatusCode)",
      "statusCodeToHTTPConst(v.Response.StatusCode)"] := by
  rfl

/-! ### Non-vacuity -/
example : emit statusTable 404 = .const "StatusNotFound" := rfl
example : (emit statusTable 425).show = "425" := by decide +kernel
example : eval httpConsts (.const "StatusTooManyRequests") = some 429 :=
  status_written_is_status_designed 429
/-- a table with one wrong entry is rejected by the hypothesis of `emit_eval` -/
example : tableOK [(425, "StatusTooManyRequests")] httpConsts = false := by
  have : httpConsts.lookup "StatusTooManyRequests" = some 429 := status_written_is_status_designed 429
  simp [tableOK, this]

end GoaVerif.Props.Status
