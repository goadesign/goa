import GoaVerif.Lemmas.Errors
import GoaVerif.Lemmas.List
import GoaVerif.Generated.TrStatus
import GoaVerif.Generated.TrGrpcerr
/-!
# C18 — error merging and status mapping: property theorems

Model: `GoaVerif.Model.Errors` (hand-written, tied by correspondence T3) and
`GoaVerif.Generated.TrStatus`, `TrGrpcerr` (regenerated from /repo by `gotolean`, tie T1).
-/
namespace GoaVerif.Props.C18
open GoaVerif.Errors GoaVerif.Generated.TrStatus GoaVerif.Generated

/-- Merging with nil changes nothing (left). -/
theorem merge_nil_left (x : GoErr) : merge .nil x = x := nil_merge x

/-- Merging with nil changes nothing (right). -/
theorem merge_nil_right (x : GoErr) : merge x .nil = x := merge_nil x

/-- `MergeErrors` is associative on every triple of errors. -/
theorem merge_assoc (x y z : GoErr) : merge (merge x y) z = merge x (merge y z) :=
  Errors.merge_assoc x y z

/-- Every parenthesisation of a sequence gives the left-to-right merge of its leaves. -/
theorem mergeTree_eq_list (t : Tree) : mergeTree t = mergeList t.leaves :=
  mergeTree_eq_mergeList t

/-- **Grouping independence.** Two merge trees over the same sequence of non-nil
    errors (nil leaves anywhere) produce the *same* result — every observable at once. -/
theorem assoc_obs (t₁ t₂ : Tree)
    (h : t₁.leaves.filter GoErr.nonNil = t₂.leaves.filter GoErr.nonNil) :
    mergeTree t₁ = mergeTree t₂ := by
  rw [mergeTree_eq_mergeList_filter, mergeTree_eq_mergeList_filter, h]

/-- All-nil sequences merge to nil. -/
theorem mergeTree_all_nil (t : Tree) (h : t.leaves.filter GoErr.nonNil = []) :
    mergeTree t = .nil := by
  rw [mergeTree_eq_mergeList_filter, h]; rfl

/-- A single non-nil error among nils is returned as is (not even converted). -/
theorem mergeTree_single (t : Tree) (x : GoErr) (h : t.leaves.filter GoErr.nonNil = [x]) :
    mergeTree t = x := by
  rw [mergeTree_eq_mergeList_filter, h]; exact merge_nil x

/-- A tree whose non-nil leaves are `a :: l` merges to `mergeList (a :: l)`, so the closed forms
    of `mergeList_view` apply to it. -/
private theorem of_leaves {t : Tree} {a : GoErr} {l : List GoErr}
    (h : t.leaves.filter GoErr.nonNil = a :: l) :
    mergeTree t = mergeList (a :: l) ∧ ∀ x ∈ a :: l, x ≠ GoErr.nil := by
  refine ⟨by rw [mergeTree_eq_mergeList_filter, h], fun x hx hnil => ?_⟩
  have := (List.mem_filter.mp (h ▸ hx)).2
  subst hnil; exact Bool.false_ne_true this

/-- Messages are concatenated in order with `"; "`. -/
theorem mergeTree_msg (t : Tree) (a : GoErr) (l : List GoErr)
    (h : t.leaves.filter GoErr.nonNil = a :: l) :
    (asSvc (mergeTree t)).msg = joinMsgs ((a :: l).map (fun x => (asSvc x).msg)) := by
  rw [(of_leaves h).1]; exact (mergeList_view a l (of_leaves h).2).2.1

/-- The first specific (non-`"error"`) name wins. -/
theorem mergeTree_name (t : Tree) (a : GoErr) (l : List GoErr)
    (h : t.leaves.filter GoErr.nonNil = a :: l) :
    (asSvc (mergeTree t)).name = firstSpecific ((a :: l).map (fun x => (asSvc x).name)) := by
  rw [(of_leaves h).1]; exact (mergeList_view a l (of_leaves h).2).1

/-- Each flag is the conjunction over all parts (a plain Go error counts as a non-timeout,
    non-temporary fault). -/
theorem mergeTree_flags (t : Tree) (a : GoErr) (l : List GoErr)
    (h : t.leaves.filter GoErr.nonNil = a :: l) :
    (asSvc (mergeTree t)).timeout = (a :: l).all (fun x => (asSvc x).timeout) ∧
    (asSvc (mergeTree t)).temporary = (a :: l).all (fun x => (asSvc x).temporary) ∧
    (asSvc (mergeTree t)).fault = (a :: l).all (fun x => (asSvc x).fault) := by
  rw [(of_leaves h).1]
  obtain ⟨_, _, h3, h4, h5, _⟩ := mergeList_view a l (of_leaves h).2
  exact ⟨h3, h4, h5⟩

/-- History = the histories of the parts in order; for original (never merged) errors this
    is exactly one entry per error carrying its own name, field and message. -/
theorem mergeTree_hist (t : Tree) (a : GoErr) (l : List GoErr)
    (h : t.leaves.filter GoErr.nonNil = a :: l)
    (horig : ∀ x ∈ a :: l, (asSvc x).hist = []) :
    (asSvc (mergeTree t)).history = (a :: l).map (fun x => (asSvc x).snap) := by
  obtain ⟨_, _, _, _, _, hhist, _⟩ := mergeList_view a l (of_leaves h).2
  rw [(of_leaves h).1, hhist, List.map_eq_flatMap]
  exact flatMap_congr_mem fun x hx => by rw [SE.history, horig x hx]; rfl

/-- Every original cause is in the result's unwrap set, in order, none added. -/
theorem mergeTree_causes (t : Tree) (a : GoErr) (l : List GoErr)
    (h : t.leaves.filter GoErr.nonNil = a :: l) :
    (asSvc (mergeTree t)).causes = (a :: l).flatMap (fun x => (asSvc x).causes) := by
  obtain ⟨_, _, _, _, _, _, hcauses, _⟩ := mergeList_view a l (of_leaves h).2
  rw [(of_leaves h).1]; exact hcauses

/-! ### Non-vacuity: a concrete tree with a nil, a plain error, a wrapped and a direct service error -/
def exA : SE := ⟨"error", none, "ma", true, true, false, [], [0]⟩
def exB : SE := ⟨"not_found", some "id", "mb", true, false, false, [], []⟩
def exT : Tree :=
  .node (.node (.leaf (.svc exA)) (.leaf .nil)) (.node (.leaf (.plain 7 "boom")) (.leaf (.wrapSvc exB)))

example : exT.leaves.filter GoErr.nonNil = [.svc exA, .plain 7 "boom", .wrapSvc exB] := rfl
example : (asSvc (mergeTree exT)).msg = "ma; boom; mb" := rfl
example : (asSvc (mergeTree exT)).name = "not_found" := rfl
example : (asSvc (mergeTree exT)).history =
    [⟨"error", none, "ma"⟩, ⟨"error", none, "boom"⟩, ⟨"not_found", some "id", "mb"⟩] := rfl
example : (asSvc (mergeTree exT)).causes = [0, 7] := rfl

/-! ### Status tables (over definitions regenerated from /repo: tie T1) -/

/-- The HTTP status heuristic is total and is exactly the documented table. -/
theorem statusCode_table (r : ErrorResponse) :
    httpStatusCode r =
      if r.Name = "unsupported_media_type" then 415
      else if r.Fault then 500
      else if r.Timeout ∧ r.Temporary then 504
      else if r.Timeout then 408
      else if r.Temporary then 503
      else 400 := by
  -- the code tests `Timeout` first and `Temporary` inside it; otherwise it is the table
  simp only [httpStatusCode, Id.run, pure, beq_iff_eq]
  cases r.Timeout <;> cases r.Temporary <;> rfl

private theorem ite_mem {α} {c : Prop} [Decidable c] {a b : α} {l : List α}
    (ha : a ∈ l) (hb : b ∈ l) : (if c then a else b) ∈ l := by
  split <;> assumption

/-- Every status produced is one of the six documented codes (totality). -/
theorem statusCode_total (r : ErrorResponse) :
    httpStatusCode r ∈ [415, 500, 504, 408, 503, 400] := by
  rw [statusCode_table]
  exact ite_mem (by decide) <| ite_mem (by decide) <| ite_mem (by decide) <| ite_mem (by decide) <|
    ite_mem (by decide) (by decide)

/-- gRPC code selection: temporary → Unavailable(14), else timeout → DeadlineExceeded(4),
    else fault → Internal(13), else Unknown(2). -/
theorem grpcCode_table (e : TrGrpcerr.ServiceError) :
    TrGrpcerr.grpcErrorCode e =
      if e.Temporary then 14 else if e.Timeout then 4 else if e.Fault then 13 else 2 := by
  unfold TrGrpcerr.grpcErrorCode
  cases e.Temporary <;> cases e.Timeout <;> cases e.Fault <;> rfl

/-- An error encoded into a gRPC status detail and decoded back has the same name,
    identifier, message and flags (struct-level part; the protobuf wire encoding of the
    detail is library code exercised by the correspondence run). -/
theorem grpc_roundtrip (e : TrGrpcerr.ServiceError) :
    TrGrpcerr.newServiceError (TrGrpcerr.newErrorResponse e) = e := by
  obtain ⟨n, i, m, tmo, tmp, f⟩ := e
  rfl

example : httpStatusCode { Name := "x", Timeout := true, Temporary := true } = 504 := rfl
example : TrGrpcerr.grpcErrorCode { Name := "x", Timeout := true, Fault := true } = 4 := rfl

end GoaVerif.Props.C18
