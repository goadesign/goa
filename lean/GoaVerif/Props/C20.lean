import GoaVerif.Lemmas.Conc
import GoaVerif.Lemmas.Isolation
import GoaVerif.Generated.FactsShared
import GoaVerif.Generated.FactsSharedGen
/-!
# C20 — safe under concurrent requests

* `lockset_race_free`: for any number of threads and **every schedule**, a program that follows the
  lock discipline (`wl`: writes under the variable's mutex held exclusively, reads under it shared
  or exclusively, or the variable is frozen after mounting) never reaches a state in which two
  threads are about to touch the same variable with one of them writing.
* `table_race_free`: the same for threads that are arbitrary sequences of accesses `Acc` (variable,
  read or write, lock taken around it) each within the model's policy `okAcc`.
* `shared_state_policy`: every row of the access table regenerated from the runtime packages of /repo
  (gofacts, every run) is within `rowOK`, a policy on the table's own strings;
  `generated_handlers_write_nothing_shared`: in the code generated for the run's designs every
  assignment to a package-level, captured or mutex-guarded variable holds the `Lock` (the table is
  extracted inside a C20 run; the committed `FactsSharedGen` is the empty placeholder).
* Not proved: that the regenerated table is race free. `rowOK` and `okAcc` are two policies and no
  theorem relates them: `rowAcc_ok` puts ONE row within `okAcc` under hypotheses on that row which
  nothing here derives from `rowOK`, and the rows `rowOK` exempts (functions that run while the
  server is assembled, the variable behind a `sync.Once`) are not accesses of the model's threads.
  `table_race_free` speaks of tables of the regenerated one's shape, not of it.
* `isolation`: over frozen shared state the outcome of a request is that of processing it alone,
  for every schedule and whatever the other requests are.
The Go memory model itself (visibility without happens-before) is not modelled: the race detector
runs over the same components in every check (vlib/c20.py).
-/
namespace GoaVerif.Props.C20
open GoaVerif GoaVerif.Conc

/-- Lock discipline ⇒ no data race in any interleaving, for any number of threads. -/
theorem lockset_race_free (g : Nat → Nat) (frozen : Nat → Bool) (codes : List (List Instr))
    (h : ∀ c ∈ codes, wl g frozen [] [] c = true) (sched : List Nat) :
    ¬ Race (run (initState codes) sched) :=
  inv_no_race _ (inv_run _ sched (inv_init codes h))

/-- Threads that are arbitrary sequences of accesses taken from a table within policy never race,
    in any number and under any schedule. -/
theorem table_race_free (frozen : Nat → Bool) (threads : List (List Acc))
    (h : ∀ t ∈ threads, ∀ a ∈ t, okAcc frozen a = true) (sched : List Nat) :
    ¬ Race (run (initState (threads.map (·.flatMap frag))) sched) := by
  apply lockset_race_free id frozen
  intro c hc
  obtain ⟨t, ht, rfl⟩ := List.mem_map.mp hc
  exact wl_frags frozen [] [] t (h t ht)

/-- The discipline is needed: the pinned `ErrorEncoder` assigned its captured `formatter` from
    every request without a lock — two such threads are in a race state at once. -/
theorem unlocked_write_races : Race (initState [[.write 0], [.write 0]]) :=
  ⟨0, 1, _, _, 0, true, true, by decide, rfl, rfl, rfl, rfl, Or.inl rfl⟩

/-! ### Non-vacuity: `ValidatePattern`'s accesses, any number of concurrent calls -/
def validatePatternCall : List Acc := [⟨0, false, .shared⟩, ⟨0, true, .exclusive⟩]
example : ∀ a ∈ validatePatternCall, okAcc (fun _ => false) a = true := by decide +kernel
example (n : Nat) (sched : List Nat) :
    ¬ Race (run (initState ((List.replicate n validatePatternCall).map (·.flatMap frag))) sched) :=
  table_race_free (fun _ => false) _ (fun t ht a ha => by
    rw [List.eq_of_mem_replicate ht] at ha
    revert a; decide) sched

/-! ### The regenerated access tables -/
open GoaVerif.Generated.FactsShared GoaVerif.Generated.FactsSharedGen

/-- functions that run while a server is assembled (before any request is served) -/
def mountPhase : List (String × String) :=
  [("http", "mux.Handle"), ("http", "mux.Use"), ("http", "NewMuxer")]

/-- written once under a `sync.Once` and read only after `Once.Do` returned -/
def onceGuarded : List (String × String) :=
  [("pkg", "writerToReaderAdapter.pr")]

/-- a variable is frozen when every write to it is in a mount-phase function -/
def frozenVar (tbl : List Access) (pkg var : String) : Bool :=
  tbl.all fun a => !(a.pkg == pkg && a.var == var && a.kind == "write") || mountPhase.contains (a.pkg, a.fn)

def rowOK (tbl : List Access) (a : Access) : Bool :=
  onceGuarded.contains (a.pkg, a.var) ||
  mountPhase.contains (a.pkg, a.fn) ||
  (if a.kind == "write" then a.lock == "Lock"
   else frozenVar tbl a.pkg a.var || a.lock == "Lock" || a.lock == "RLock")

/-- Every access to shared mutable state in the runtime packages of the current tree is a locked
    write, a locked (or frozen-variable) read, or happens while the server is assembled. -/
theorem shared_state_policy : accesses.all (rowOK accesses) = true := by decide +kernel

/-- the extraction found the known shared state (pattern cache, muxer tables, sampler) -/
theorem shared_state_seen :
    (accesses.any fun a => a.var == "knownPatterns") = true ∧
    (accesses.any fun a => a.var == "mux.wildcards") = true ∧
    (accesses.any fun a => a.var == "adaptiveSampler.start") = true := by decide +kernel

/-- Generated servers and clients of this run's designs assign a shared variable only under `Lock`. -/
theorem generated_handlers_write_nothing_shared :
    generatedAccesses.all (fun a => a.kind != "write" || a.lock == "Lock") = true := by decide +kernel

/-- a row of the table as an access of `Model/Conc.lean`: `idx` numbers the variables, each guarded
    by a mutex of its own -/
def rowAcc (idx : String → String → Nat) (a : Access) : Acc :=
  ⟨idx a.pkg a.var, a.kind == "write",
   if a.lock == "Lock" then .exclusive else if a.lock == "RLock" then .shared else .none⟩

/-- what has to be known of a row for its access to be within `okAcc` (`rowOK` alone does not say it:
    see the head of the file) -/
theorem rowAcc_ok (idx : String → String → Nat) (frozen : Nat → Bool) (a : Access)
    (hw : a.kind = "write" → a.lock = "Lock" ∧ frozen (idx a.pkg a.var) = false)
    (hr : a.kind ≠ "write" → frozen (idx a.pkg a.var) = true ∨ a.lock = "Lock" ∨ a.lock = "RLock") :
    okAcc frozen (rowAcc idx a) = true := by
  unfold okAcc rowAcc
  by_cases hk : a.kind = "write"
  · obtain ⟨hl, hf⟩ := hw hk
    simp [hk, hl, hf]
  · rcases hr hk with h | h | h <;> simp [hk, h]

/-! ### Isolation over frozen shared state -/
open GoaVerif.Isolation in
theorem shared_unchanged {σ L} (sys : System σ L) (s : Isolation.State σ L) (sched : List Nat) :
    (Isolation.run sys s sched).shared = s.shared :=
  List.foldlRecOn (motive := fun s' => s'.shared = s.shared) sched (Isolation.step sys) rfl
    fun s' h j _ => (step_shared sys s' j).trans h

open GoaVerif.Isolation in
/-- Each request ends where it would have ended alone: the number of its own steps is all that
    the schedule contributes, the other requests contribute nothing. -/
theorem isolation {σ L} (sys : System σ L) (s : Isolation.State σ L) (sched : List Nat) (i : Nat) (l : L)
    (hi : s.locals[i]? = some l) :
    (Isolation.run sys s sched).locals[i]? = some (solo sys s.shared l (sched.count i)) := by
  unfold Isolation.run
  induction sched generalizing s l with
  | nil => exact hi
  | cons j rest ih =>
    rw [List.foldl_cons]
    by_cases hji : j = i
    · subst hji
      rw [ih _ _ (step_locals_self sys s hi), step_shared, List.count_cons_self]
      rfl
    · rw [ih _ _ ((step_locals_ne sys s hji).trans hi), step_shared, List.count_cons_of_ne hji]

end GoaVerif.Props.C20
