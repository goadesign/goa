import GoaVerif.Lemmas.FS
import GoaVerif.Lemmas.TypeHash
import GoaVerif.Lemmas.List
import GoaVerif.Generated.FactsMapRange
/-!
# C09 — generation is repeatable and never clobbers examples

Part 1: the output directory (`Model/FS.lean`, validated against the real `goa` command on real
directories by `vlib/c09.py`): `gen` over any prior state leaves exactly the generated files in the
sub-directories of `gen/`, independent of what was there; it is idempotent; `example` never
modifies a file that exists; any history ending in `gen` has the same `gen/` part.

Part 2: map iteration order. Every `range` over a map in the generator packages is listed in the
regenerated table `Generated/FactsMapRange.lean` with the shape class of its body; for each
order-free class there is a lemma below saying why the class cannot observe the order, and
`sites_accounted` (by `decide` over the regenerated table) says every site is in such a class or
on the reviewed list.
-/
namespace GoaVerif.Props.C09
open GoaVerif GoaVerif.FS

/-! ## Part 1 — the output directory -/

/-- `gen` does not touch anything outside the sub-directories of `gen/` (given that it writes
    only there — an obligation checked on the real file list in every run). -/
theorem gen_frame (fmt : String → String) (files : List File) (fs : FS) (p : Path)
    (hg : ∀ f ∈ files, underGenSub f.path = true) (hp : underGenSub p = false) :
    get (gen fmt files fs) p = get fs p := by
  rw [gen, get_renderAll_frame fmt files _ p (fun f hf e => by rw [← e, hg f hf] at hp; cases hp),
    get_cleanup, hp]
  rfl

/-- Inside the sub-directories of `gen/` the result of `gen` does not depend on the prior state
    of the directory at all: not on earlier runs, not on stale or edited files. -/
theorem gen_state_independent (fmt : String → String) (files : List File) (fs₁ fs₂ : FS) (p : Path)
    (hp : underGenSub p = true) :
    get (gen fmt files fs₁) p = get (gen fmt files fs₂) p := by
  rw [get_gen, get_gen, hp]; rfl

/-- Running `gen` over its own output reproduces that output. -/
theorem gen_idempotent (fmt : String → String) (files : List File) (fs : FS) (p : Path)
    (hg : ∀ f ∈ files, underGenSub f.path = true) :
    get (gen fmt files (gen fmt files fs)) p = get (gen fmt files fs) p := by
  cases hp : underGenSub p
  · exact gen_frame fmt files _ p hg hp
  · exact gen_state_independent fmt files _ _ p hp

/-- With pairwise distinct paths every generated file holds exactly its own rendering,
    formatted once — nothing of a previous run is appended to it. -/
theorem gen_content (fmt : String → String) (files : List File) (fs : FS) (f : File)
    (hf : f ∈ files) (hg : underGenSub f.path = true)
    (hd : files.Pairwise (fun a b => a.path ≠ b.path)) :
    get (gen fmt files fs) f.path = some ⟨finish fmt f f.content, 0⟩ := by
  rw [get_gen, hg, filter_path_eq_singleton hf hd]; rfl

/-- `example` never modifies a file that already exists (content and write count). -/
theorem example_preserves (fmt : String → String) (files : List File) (fs : FS) (p : Path) (c : Cell)
    (hs : ∀ f ∈ files, f.skipExist = true) (h : get fs p = some c) :
    get (exampleCmd fmt files fs) p = some c :=
  get_renderAll_skip fmt files fs p c hs h

/-- A file outside the sub-directories of `gen/` that exists is changed only by an edit or a
    deletion of that very path. -/
theorem run_preserves (fmt : String → String) (g e : List File) (ops : List Op) (fs : FS) (p : Path) (c : Cell)
    (hg : ∀ f ∈ g, underGenSub f.path = true) (he : ∀ f ∈ e, f.skipExist = true)
    (hp : underGenSub p = false) (h : get fs p = some c)
    (hops : ∀ o ∈ ops, match o with | .edit q _ | .rm q => p ≠ q | _ => True) :
    get (run fmt g e ops fs) p = some c := by
  induction ops generalizing fs with
  | nil => exact h
  | cons o rest ih =>
    refine ih _ ?_ fun x hx => hops x (List.mem_cons_of_mem _ hx)
    have ho := hops o List.mem_cons_self
    cases o with
    | gen => exact (gen_frame fmt g fs p hg hp).trans h
    | ex => exact example_preserves fmt e fs p c he h
    | edit q s => exact (get_edit fs q s p).trans ((if_neg ho).trans h)
    | rm q => exact (get_removeWhere fs (· == q) p).trans ((if_neg fun hq => ho (beq_iff_eq.mp hq)).trans h)

/-- A user's edit of an example file survives any number of later `example` and `gen` runs. -/
theorem edit_survives (fmt : String → String) (g e : List File) (ops : List Op) (fs : FS) (p : Path) (c : Cell)
    (hg : ∀ f ∈ g, underGenSub f.path = true) (he : ∀ f ∈ e, f.skipExist = true)
    (hp : underGenSub p = false) (h : get fs p = some c)
    (hops : ∀ o ∈ ops, o = Op.gen ∨ o = Op.ex) :
    get (run fmt g e ops fs) p = some c :=
  run_preserves fmt g e ops fs p c hg he hp h fun o ho => by
    rcases hops o ho with rfl | rfl <;> trivial

/-- Whatever happened before (runs, edits, stale files), after a final `gen` the sub-directories
    of `gen/` hold what `gen` produces in an empty directory. -/
theorem history_gen_same (fmt : String → String) (g e : List File) (ops : List Op) (fs : FS) (p : Path)
    (hp : underGenSub p = true) :
    get (run fmt g e (ops ++ [Op.gen]) fs) p = get (gen fmt g []) p := by
  rw [run_append]
  exact gen_state_independent fmt g _ _ p hp

/-- Without the cleanup a second run appends to the first: the cleanup is what makes `gen`
    repeatable (files are opened in append mode). -/
theorem render_twice_appends (fmt : String → String) (f : File) (hs : f.skipExist = false) :
    get (render fmt (render fmt [] f) f) f.path
      = some ⟨finish fmt f (finish fmt f f.content ++ f.content), 1⟩ := by
  have h0 : get ([] : FS) f.path = none := rfl
  rw [get_render, get_render]
  simp [renderCell, hs, h0]

/-! ### Non-vacuity -/
def gfile : File := ⟨["gen", "calc", "service.go"], "package calc", false, true⟩
def efile : File := ⟨["calc.go"], "package api", true, true⟩
example : underGenSub gfile.path = true ∧ underGenSub efile.path = false := by decide +kernel
example : get (gen id [gfile] [(["gen", "calc", "stale.go"], ⟨"x", 3⟩), (["calc.go"], ⟨"mine", 2⟩)]) ["gen", "calc", "stale.go"] = none := by decide +kernel
example : get (run id [gfile] [efile] [.ex, .edit ["calc.go"] "mine", .ex, .gen] []) ["calc.go"] = some ⟨"mine", 1⟩ := by decide +kernel
example : get (run id [gfile] [efile] [.gen, .gen] []) gfile.path = some ⟨"package calc", 0⟩ := by decide +kernel

/-! ## Part 2 — map iteration order -/

/-- `sortedAfter`: the loop only collects entries and the collection is sorted before use — any
    two iteration orders of a map (distinct keys) give the same sorted list. -/
theorem sortedAfter_order_indep {β : Type} (o₁ o₂ : List (String × β)) (hp : o₁.Perm o₂)
    (hd : (o₁.map (·.1)).Nodup) :
    TypeHash.isort (fun a b => decide (a.1 ≤ b.1)) o₁ = TypeHash.isort (fun a b => decide (a.1 ≤ b.1)) o₂ :=
  TypeHash.isort_perm_eq o₁ o₂ hp hd

/-- a finite map as a function, and a keyed store -/
def upd {β : Type} (m : String → Option β) (k : String) (v : β) : String → Option β :=
  fun q => if q = k then some v else m q

theorem upd_comm {β : Type} (m : String → Option β) (k₁ k₂ : String) (v₁ v₂ : β) (h : k₁ ≠ k₂) :
    upd (upd m k₁ v₁) k₂ v₂ = upd (upd m k₂ v₂) k₁ v₁ := by
  funext q
  unfold upd
  by_cases h2 : q = k₂
  · rw [if_pos h2, if_neg (h2 ▸ Ne.symm h), if_pos h2]
  · rw [if_neg h2, if_neg h2]

/-- `keyedWrite` / `perEntry`: the loop stores one value per entry under the entry's own key
    (the value may be any function `g` of the entry). The resulting table is the same for every
    iteration order. -/
theorem keyedWrite_order_indep {β γ : Type} (g : String × β → γ) (m : String → Option γ)
    (o₁ o₂ : List (String × β)) (hp : o₁.Perm o₂) (hd : (o₁.map (·.1)).Nodup) :
    o₁.foldl (fun acc e => upd acc e.1 (g e)) m = o₂.foldl (fun acc e => upd acc e.1 (g e)) m := by
  apply List.Perm.foldl_eq' hp
  intro x hx y hy z
  by_cases h : x.1 = y.1
  · rw [nodup_map_inj (·.1) hd x hx y hy h]
  · exact upd_comm z x.1 y.1 (g x) (g y) h

/-- `exists`: the loop only reports whether some entry satisfies a condition. -/
theorem exists_order_indep {α : Type} (c : α → Bool) (o₁ o₂ : List α) (hp : o₁.Perm o₂) :
    o₁.any c = o₂.any c :=
  hp.any_eq

/-- `commutative`: the loop only adds to counters. -/
theorem commutative_order_indep {α : Type} (w : α → Nat) (o₁ o₂ : List α) (hp : o₁.Perm o₂) (n : Nat) :
    o₁.foldl (fun acc e => acc + w e) n = o₂.foldl (fun acc e => acc + w e) n := by
  apply List.Perm.foldl_eq' hp
  intro x _ y _ z
  omega

/-- `firstMatch` is **not** order-free in general: the value of the first matching entry is
    returned, so two matching entries make the result depend on the order. -/
theorem firstMatch_order_dependent :
    ∃ (o₁ o₂ : List (String × String)), o₁.Perm o₂ ∧
      (o₁.find? (fun e => e.1 == "openapi:summary" || e.1 == "swagger:summary")).map (·.2)
        ≠ (o₂.find? (fun e => e.1 == "openapi:summary" || e.1 == "swagger:summary")).map (·.2) :=
  ⟨[("openapi:summary", "a"), ("swagger:summary", "b")], [("swagger:summary", "b"), ("openapi:summary", "a")],
   List.Perm.swap .., by decide +kernel⟩

/-- with at most one matching entry it is -/
theorem firstMatch_unique_order_indep {α : Type} (c : α → Bool) (o₁ o₂ : List α) (hp : o₁.Perm o₂)
    (hu : ∀ a ∈ o₁, ∀ b ∈ o₁, c a = true → c b = true → a = b) :
    o₁.find? c = o₂.find? c :=
  find?_perm hp hu

/-! ### the regenerated site table -/
open GoaVerif.Generated.FactsMapRange

def orderFree (cls : String) : Bool :=
  cls == "sortedAfter" || cls == "keyedWrite" || cls == "perEntry" || cls == "exists" || cls == "commutative"

/-- Sites whose body is none of the order-free shapes, reviewed by hand (package, function, ranged
    expression — no line numbers), each with the reason it cannot make the output depend on the
    iteration order. (The summary look-ups that ranged over metadata with two alias keys were a
    genuine order dependence: repaired in /repo, see `firstMatch_order_dependent`.) -/
def reviewed : List (String × String × String × String) := [
  ("codegen", "SnakeCase", "toLower", "the keys are two fixed acronyms that do not overlap; each replacement commutes with the other"),
  ("codegen", "safelyGetMetaTypeImports", "uniqueImports", "import specs; the header section sorts/regroups imports when the file is formatted"),
  ("codegen/generator", "Generate", "written", "fills a slice by index; sort.Strings(outputs) follows"),
  ("codegen/service", "ConvertFile", "ppm", "import specs; sorted when the file is formatted"),
  ("codegen/service", "Data.initUserTypeImports", "importsByPath", "import specs; sorted when the file is formatted (comment in the source says so)"),
  ("codegen/service", "Data.initUserTypeImports", "m.ErrorLocs", "calls initLoc per entry, which stores under the entry's own import path"),
  ("eval", "DSLContext.Roots", "rootDeps", "cycle check only: decides whether an error is returned, the order of roots comes from the registration slice (C11)"),
  ("expr", "AttributeExpr.debug", "a.Meta", "debug printing, not used by any generator"),
  ("expr", "httpRequestBody", "defaultRequestHeaderAttributes(a)", "removes each listed attribute from the body object; removals of distinct names commute"),
  ("expr", "MappedAttributeExpr.Delete", "ma.reverseMap", "deletes the entry whose value is the given name; values are unique (reverse of an injective map)"),
  ("expr", "MetaExpr.Dup", "m", "stores a copy under the entry's own key (keyed write behind a nil test)"),
  ("expr", "MetaExpr.Merge", "src", "per key: appends the missing values of that key to the same key of the receiver; keys do not interact"),
  ("expr", "MapVal.ToMap", "m", "stores the converted value under the entry's own key (keyed write behind a type switch)"),
  ("http/codegen", "extractCookies", "a.Meta", "each recognised key assigns its own field of the cookie data"),
  ("http/codegen/openapi", "propertiesFromDefs", "definitions", "stores a reference schema under the entry's own key"),
  ("http/codegen/openapi", "Schema.Merge", "other.Properties", "stores under the entry's own key when absent"),
  ("http/codegen/openapi/v2", "NewV2", "openapi.Definitions", "clears two fields of the entry's own schema and stores it under its own key"),
  ("http/codegen/openapi/v3", "buildFileServerOperation", "meta", "assigns from the single key openapi:operationId"),
  ("http/codegen/openapi/v3", "buildOperation", "meta", "setOperationIDFormat: assigns from the single key openapi:operationId"),
  ("http/codegen/openapi/v3", "responseFromExpr", "cookies", "runs only when the map has exactly one entry")
]

def accounted (s : Site) : Bool :=
  orderFree s.cls || reviewed.any (fun r => r.1 == s.pkg && r.2.1 == s.fn && r.2.2.1 == s.expr)

/-- Every `range` over a map in the generator packages of the current tree is of an order-free
    shape or reviewed. A new or reshaped site breaks this theorem. -/
theorem sites_accounted : sites.all accounted = true := by decide +kernel

/-- the table is not empty (the extraction found the loops) -/
theorem sites_nonempty : 40 ≤ sites.length := by decide

end GoaVerif.Props.C09
