import GoaVerif.Lemmas.Eval
import GoaVerif.Lemmas.Roots
/-!
# C11 — DSL evaluation phases and root ordering: property theorems
Model `GoaVerif.Model.Eval` (hand-written; tie T3 `rteval` ↔ `drv_eval`).
-/
namespace GoaVerif.Props.C11
open GoaVerif.Eval

/-- the trace splits into execution, preparation, validation and finalization events, in
    this order: no expression enters a phase before all have completed the previous one -/
def PhaseOrdered (tr : List Ev) : Prop :=
  ∃ d p v f, tr = d ++ p ++ v ++ f ∧ (∀ e ∈ d, e.phase = .dsl) ∧ (∀ e ∈ p, e.phase = .prepare) ∧
    (∀ e ∈ v, e.phase = .validate) ∧ (∀ e ∈ f, e.phase = .finalize)

/-- `PhaseOrdered`, and no finalize event unless `ok` -/
def Phased (ok : Prop) (tr : List Ev) : Prop :=
  ∃ d p v f, tr = d ++ p ++ v ++ f ∧ (∀ e ∈ d, e.phase = .dsl) ∧ (∀ e ∈ p, e.phase = .prepare) ∧
    (∀ e ∈ v, e.phase = .validate) ∧ (∀ e ∈ f, e.phase = .finalize) ∧ (¬ok → f = [])

theorem Phased.of_dsl {ok : Prop} {tr : List Ev} (h : ∀ e ∈ tr, e.phase = .dsl) : Phased ok tr :=
  ⟨tr, [], [], [], by simp, h, List.forall_mem_nil _, List.forall_mem_nil _, List.forall_mem_nil _, fun _ => rfl⟩

/-- The phases of a run; `phases_barrier` and `finalize_only_if_ok` are its two halves. -/
theorem runDSL_phases (w : World) (init : List Name) (fuel : Nat) :
    Phased ((runDSL w init fuel).1 = .ok) (runDSL w init fuel).2 := by
  have hst := execStage_dsl w init fuel
  unfold runDSL
  split <;> rename_i heq <;> rw [heq] at hst
  · exact .of_dsl hst
  · exact .of_dsl (List.forall_mem_nil _)
  · rename_i s1
    split
    · exact .of_dsl hst
    · split
      · exact .of_dsl hst
      · rename_i roots _
        obtain ⟨p, hp1, hp2⟩ := phase_adds w .prepare roots s1
        obtain ⟨v, hv1, hv2⟩ := phase_adds w .validate roots (phase w .prepare roots s1)
        have h2 : (checkStage w roots s1).trace = s1.trace ++ p ++ v := by
          unfold checkStage; rw [hv1, hp1]
        dsimp only
        split
        · exact ⟨s1.trace, p, v, [], by simp [h2], hst, hp2, hv2, List.forall_mem_nil _, fun _ => rfl⟩
        · obtain ⟨f, hf1, hf2⟩ := phase_adds w .finalize roots (checkStage w roots s1)
          exact ⟨s1.trace, p, v, f, by rw [hf1, h2], hst, hp2, hv2, hf2, fun h => absurd rfl h⟩

/-- **Global phases.** Whatever the roots, their dependency graph, the registration order,
    the expression sets and what the DSLs do (report errors, register roots, append
    expressions), the callbacks happen in four global phases. -/
theorem phases_barrier (w : World) (init : List Name) (fuel : Nat) :
    PhaseOrdered (runDSL w init fuel).2 := by
  obtain ⟨d, p, v, f, htr, hd, hp, hv, hf, _⟩ := runDSL_phases w init fuel
  exact ⟨d, p, v, f, htr, hd, hp, hv, hf⟩

/-- **Execution errors gate everything.** If any DSL reported an error, `RunDSL` returns all
    recorded errors together, in order, and no prepare/validate/finalize callback ran. -/
theorem exec_errors_gate (w : World) (init : List Name) (fuel : Nat) (s1 : St)
    (h : execStage w init fuel = .done s1) (he : s1.errors ≠ []) :
    runDSL w init fuel = (.errors s1.errors, s1.trace) ∧ ∀ e ∈ s1.trace, e.phase = .dsl :=
  ⟨by simp [runDSL, h, he], execStage_trace w init fuel s1 h⟩

/-- **Finalization never runs on a design that failed.** Unless `RunDSL` succeeds, the trace
    contains no finalize event. -/
theorem finalize_only_if_ok (w : World) (init : List Name) (fuel : Nat)
    (h : (runDSL w init fuel).1 ≠ .ok) : ∀ e ∈ (runDSL w init fuel).2, e.phase ≠ .finalize := by
  obtain ⟨d, p, v, f, htr, hd, hp, hv, _, hf⟩ := runDSL_phases w init fuel
  rw [htr, hf h]
  intro e he
  simp only [List.mem_append, List.not_mem_nil, or_false] at he
  rcases he with (he | he) | he
  · rw [hd e he]; decide
  · rw [hp e he]; decide
  · rw [hv e he]; decide

/-- Validation errors are all returned together: when execution succeeded and some validator
    reported, the result is exactly the accumulated list. -/
theorem validation_errors_together (w : World) (init : List Name) (fuel : Nat) (s1 : St) (roots : List Name)
    (h : execStage w init fuel = .done s1) (he : s1.errors = [])
    (hr : rootsOrder (regOf w s1) fuel = some roots)
    (hv : (checkStage w roots s1).errors ≠ []) :
    (runDSL w init fuel).1 = .errors (checkStage w roots s1).errors := by
  simp [runDSL, h, he, hr, hv]

/-- The order returned by `Roots` never lists a root twice. -/
theorem roots_nodup (g : Reg) (fuel : Nat) (l : List Name) (h : rootsOrder g fuel = some l) : l.Nodup := by
  obtain ⟨_, rfl⟩ := rootsOrder_eq_some h
  exact appendNew_nodup [] _ List.nodup_nil

/-- Every registered root is in the order. -/
theorem roots_complete (g : Reg) (fuel : Nat) (l : List Name) (h : rootsOrder g fuel = some l) :
    ∀ r ∈ g.roots, r ∈ l :=
  fun r hr => (mem_rootsOrder h r).mpr ⟨r, hr, sortR_root_mem ..⟩

/-! ### Witnesses (kernel-checked by `decide`) and non-vacuity -/

def dep3 : Name → List Name := fun n => if n = "c" then ["b"] else if n = "b" then ["a"] else []

/-- a chain c → b → a registered as c, b, a comes out dependency-first -/
example : rootsOrder ⟨["c", "b", "a"], dep3⟩ 13 = some ["a", "b", "c"] := by decide +kernel
/-- two roots that depend on each other are a cycle -/
example : rootsOrder ⟨["x", "y"], fun n => if n = "x" then ["y"] else ["x"]⟩ 10 = none := by decide +kernel

/-! ### Dependency order of `Roots` -/

/-- **Topological order (every acyclic registry, every size).** Let `U` be any finite set of names
    closed under `DependsOn` that contains the registered roots, and let the recursion budget of the
    model exceed `2·|U|+1` (the real code has no budget: the bound is the nesting depth
    `sortDependenciesR` can reach, proved in `Lemmas/Roots.lean`). Whenever `Roots` returns an order `l`
    (no dependency cycle reported), every registered root `r` comes after every root it depends on,
    directly or through other roots: `l = p ++ r :: q` with the dependency in `p`. Together with
    `roots_nodup` this is the position of `r`, so "before" is unambiguous. -/
theorem roots_topo (g : Reg) (fuel : Nat) (U : List Name)
    (hU : ∀ x ∈ U, ∀ y ∈ g.dep x, y ∈ U) (hr : ∀ r ∈ g.roots, r ∈ U) (hfuel : 2 * U.length + 2 ≤ fuel)
    (l : List Name) (h : rootsOrder g fuel = some l) :
    ∀ r ∈ g.roots, ∀ d, Reach g.dep r d → d ≠ r → ∃ p q, l = p ++ r :: q ∧ d ∈ p := by
  intro r hrr d hd hne
  obtain ⟨p, q, e⟩ := List.append_of_mem (roots_complete g fuel l h r hrr)
  have hgood : Good (flatDeps g fuel) (p ++ r :: q) := e ▸ rootsOrder_good g fuel U hU hr hfuel l h
  have hdd : d ∈ flatDeps g fuel r := reach_mem_flatDeps g fuel U hU hr hfuel hrr hd
  exact ⟨p, q, e, List.nil_append p ▸ goodAux_split (flatDeps g fuel) [] p q r hgood d hdd hne⟩

/-- direct dependencies, the form the property is stated in -/
theorem roots_topo_direct (g : Reg) (fuel : Nat) (U : List Name)
    (hU : ∀ x ∈ U, ∀ y ∈ g.dep x, y ∈ U) (hr : ∀ r ∈ g.roots, r ∈ U) (hfuel : 2 * U.length + 2 ≤ fuel)
    (l : List Name) (h : rootsOrder g fuel = some l) :
    ∀ r ∈ g.roots, ∀ d ∈ g.dep r, d ≠ r → ∃ p q, l = p ++ r :: q ∧ d ∈ p :=
  fun r hrr d hd hne => roots_topo g fuel U hU hr hfuel l h r hrr d (.head hd (.refl d)) hne

/-- non-vacuity: a registry that meets the hypotheses (universe, fuel) and is ordered -/
example : (∀ x ∈ ["a", "b", "c"], ∀ y ∈ dep3 x, y ∈ ["a", "b", "c"]) ∧ 2 * ["a", "b", "c"].length + 2 ≤ 13 ∧
    rootsOrder ⟨["c", "b", "a"], dep3⟩ 13 = some ["a", "b", "c"] := by decide +kernel

/-- **Known finding (witness).** A root that lists itself in `DependsOn` is not reported. -/
theorem selfloop_not_reported :
    rootsOrder ⟨["x"], fun _ => ["x"]⟩ 10 = some ["x"] := by decide +kernel

def wDyn : World :=
  { defs := [⟨"r", [], [[1]], 9⟩],
    pool := [⟨1, some [.append "r" 0 2], false, none, false⟩, ⟨2, some [], true, none, true⟩, ⟨9, none, false, none, false⟩] }

/-- **Known finding (witness).** An expression appended to a set while that set executes is
    prepared and finalized but its own DSL never runs (`runSet` iterates a copy). -/
theorem appended_expr_dsl_not_run :
    (runDSL wDyn ["r"] 7).1 = .ok ∧
    (runDSL wDyn ["r"] 7).2 = [⟨.dsl, "r", 1⟩, ⟨.prepare, "r", 2⟩, ⟨.finalize, "r", 2⟩] := by decide +kernel

def wReg : World :=
  { defs := [⟨"r", [], [[1]], 8⟩, ⟨"late", ["r"], [[2]], 9⟩],
    pool := [⟨1, some [.register "late"], false, none, false⟩, ⟨2, some [], true, none, true⟩,
             ⟨8, none, false, none, false⟩, ⟨9, none, false, none, true⟩] }

/-- a root registered while the DSL executes is executed, prepared and finalized (after d5ccba5) -/
example : (runDSL wReg ["r"] 10).2 =
    [⟨.dsl, "r", 1⟩, ⟨.dsl, "late", 2⟩, ⟨.prepare, "late", 2⟩, ⟨.finalize, "late", 9⟩, ⟨.finalize, "late", 2⟩] := by decide +kernel

end GoaVerif.Props.C11
