import GoaVerif.Model.OpenAPI
import GoaVerif.Lemmas.List
/-!
# C07 — OpenAPI documents list exactly the server's operations
The decision procedures the check uses (`opsDiff`, `pathParamDiff`, `template`) with the theorems
that make their answers mean what the property says. Validity of the documents is decided by an
independent implementation (kin-openapi) per generated design; see `vlib/c07.py`.
-/
namespace GoaVerif.Props.C07
open GoaVerif.OpenAPI

/-- The comparison reports nothing iff both lists denote the same set of operations. -/
theorem opsDiff_empty_iff (d m : List Op) :
    opsDiff d m = ([], []) ↔ ∀ o, o ∈ d ↔ o ∈ m := diff_eq_nil_iff d m

/-- everything it reports is a genuine difference -/
theorem opsDiff_sound (d m : List Op) (o : Op) :
    (o ∈ (opsDiff d m).1 → o ∈ d ∧ o ∉ m) ∧ (o ∈ (opsDiff d m).2 → o ∈ m ∧ o ∉ d) := by
  unfold opsDiff
  simp [List.mem_filter]

theorem varsOf_forget (segs : List Seg) : varsOf (segs.map forget) = varsOf segs := by
  induction segs with
  | nil => rfl
  | cons s r ih => cases s <;> simp [varsOf, forget, ih]

/-- The template keeps the variables of the mounted pattern, in order, and turns every
    catch-all into an ordinary variable. -/
theorem template_segments (segs : List Seg) :
    varsOf (segs.map forget) = varsOf segs ∧ ∀ s ∈ segs.map forget, ∀ n, s ≠ .var n true := by
  refine ⟨varsOf_forget segs, ?_⟩
  intro s hs n
  simp only [List.mem_map] at hs
  obtain ⟨x, _, rfl⟩ := hs
  cases x <;> simp [forget]

/-- the literal segments are untouched -/
theorem template_literals (segs : List Seg) (i : Nat) (s : List Char) (h : segs[i]? = some (.lit s)) :
    (segs.map forget)[i]? = some (.lit s) := by
  simp [List.getElem?_map, h, forget]

theorem pathParamDiff_empty_iff (tmpl : String) (declared : List String) :
    pathParamDiff tmpl declared = ([], []) ↔ ∀ v, v ∈ varsOf (segsOf tmpl.toList) ↔ v ∈ declared :=
  diff_eq_nil_iff _ declared

/-! ### Non-vacuity -/
example : template "/a/{id}/{*rest}" = "/a/{id}/{rest}" := by decide +kernel
example : varsOf (segsOf "/a/{id}/{*rest}".toList) = ["id", "rest"] := by decide +kernel
example : opsDiff [("GET", "/a/{id}")] [("GET", "/a/{id}"), ("POST", "/b")] = ([], [("POST", "/b")]) := by decide +kernel
example : pathParamDiff "/a/{id}/{rest}" ["id"] = (["rest"], []) := by decide +kernel

end GoaVerif.Props.C07
