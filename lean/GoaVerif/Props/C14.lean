import GoaVerif.Lemmas.Schema
/-!
# C14 — the documented schemas accept exactly what the design's validations accept

`accepts` is the meaning of the JSON-Schema subset of the generated documents, `schemaOf` the
schema goa documents an attribute with, `violations` (C04) the meaning of the design, to which
the generated server is tied by C04's check.

* `schema_iff_valid`: on the agreeing fragment (`agree`) the schema accepts a value iff it
  breaks no rule of the design — for every attribute, value and nesting depth.
* outside the fragment the two really differ; each excluded construct has a kernel-checked
  witness below (and a known finding replayed on the generated documents by vlib/c14.py).
-/
namespace GoaVerif.Props.C14
open GoaVerif.Validation GoaVerif.Schema

/-- **The contract neither promises what the server rejects nor forbids what it accepts.** -/
theorem schema_iff_valid : ∀ (fuel : Nat) (a : Att) (v : Val), agree a = true →
    accepts fuel (schemaOf a) v = (violations fuel a v).isEmpty := by
  intro fuel
  induction fuel with
  | zero => intro a v _; simp [accepts, violations]
  | succ n ih =>
    intro a v hag
    cases a with
    | prim k r =>
      cases k with
      | boolean => exact prim_bool n r v
      | number i lo hi => exact prim_num n i lo hi r v hag
      | string => exact prim_str n r v
      | bytes => exact prim_bytes n r v hag
    | arr r e =>
      have he : agree e = true := by simpa [agree] using hag
      cases v <;> try rfl
      simp only [schemaOf, accepts, violations, isEmpty_append, isEmpty_flatMap]
      congr 1
      exact all_congr_mem fun x _ => ih e x he
    | map r k e =>
      simp only [agree, Bool.and_eq_true, Option.isNone_iff_eq_none] at hag
      obtain ⟨⟨⟨hmin, hmax⟩, hk⟩, he⟩ := hag
      -- `agree` admits string keys only
      obtain ⟨kr, rfl⟩ : ∃ kr, k = .prim .string kr := by
        cases k with
        | prim kk kr => cases kk <;> first | exact ⟨kr, rfl⟩ | cases hk
        | _ => cases hk
      cases v <;> try rfl
      simp only [schemaOf, accepts, violations, isEmpty_append, isEmpty_flatMap, lengthViol, hmin, hmax,
        List.append_nil, List.isEmpty_nil, Bool.true_and]
      exact all_congr_mem fun kv _ => by rw [key_ok n kr kv.1 hk, ih e kv.2 he]
    | obj fields =>
      simp only [agree, Bool.and_eq_true, agreeFields_eq, List.all_eq_true] at hag
      obtain ⟨haf, hdn⟩ := hag
      cases v <;> try rfl
      rename_i vals
      -- per field: listed as required iff declared required; the field's value by the hypothesis
      simp only [schemaOf, accepts_object, ValCode.violations_obj, isEmpty_flatMap, isEmpty_append, schemaFields_eq,
        List.all_map, lengthViol, List.append_nil, List.isEmpty_nil, Bool.true_and]
      refine all_congr_mem fun f hf => ?_
      simp only [Function.comp, requiredOf_contains fields hdn f hf, ih f.2.2 _ (haf f hf), ValCode.missingViol, isEmpty_ite,
        Bool.not_and, Bool.not_not, Bool.or_comm]

/-- in particular: accepted by the schema ⇔ the handler invokes the method (C04 `handle`) -/
theorem schema_iff_server_spec (fuel : Nat) (a : Att) (v : Val) (h : agree a = true) :
    accepts fuel (schemaOf a) v = true ↔ handle fuel a v = .called := by
  rw [schema_iff_valid fuel a v h]
  unfold handle
  cases violations fuel a v <;> simp

/-! ### Outside the fragment the document and the server differ (each is a known finding) -/

/-- unsigned kinds are documented with the signed format of the same width: the schema forbids
    the upper half of the type's range, which the server accepts … -/
theorem uint32_upper_half_forbidden :
    let a := Att.prim (.number true (some 0) (some 4294967295)) {}
    let v := Val.num ⟨4294967295, 1⟩
    accepts 2 (schemaOf a) v = false ∧ violations 2 a v = [] := by decide +kernel

/-- … and admits negative numbers, which the server cannot even decode -/
theorem uint32_negative_admitted :
    let a := Att.prim (.number true (some 0) (some 4294967295)) {}
    let v := Val.num ⟨-1, 1⟩
    accepts 2 (schemaOf a) v = true ∧ violations 2 a v = [.invalidFieldType] := by decide +kernel

/-- MinLength on `Bytes`: the server counts bytes, the schema counts base64 characters -/
theorem bytes_length_counts_differ :
    let a := Att.prim .bytes { minLen := some 2 }
    let v := Val.bytes 1
    accepts 2 (schemaOf a) v = true ∧ violations 2 a v = [.invalidLength] := by decide +kernel

/-- validations on map keys cannot be expressed in an OpenAPI 3.0 schema -/
theorem map_key_rules_undocumented :
    let a := Att.map {} (.prim .string { pattern := true }) (.prim .boolean {})
    let v := Val.map [(.str "7" true false, .bool true)]
    accepts 3 (schemaOf a) v = true ∧ violations 3 a v = [.invalidPattern] := by decide +kernel

/-- MinLength / MaxLength of a map are not documented as minProperties / maxProperties -/
theorem map_length_undocumented :
    let a := Att.map { maxLen := some 1 } (.prim .string {}) (.prim .boolean {})
    let v := Val.map [(.str "a" true true, .bool true), (.str "b" true true, .bool true)]
    accepts 3 (schemaOf a) v = true ∧ violations 3 a v = [.invalidLength] := by decide +kernel

/-! ### Non-vacuity: a nested attribute inside the fragment, one valid and one invalid value -/
def sample : Att :=
  .obj [("id", true, .prim (.number true (some (-9223372036854775808)) (some 9223372036854775807)) { min := some ⟨1, 1⟩ }),
        ("tags", false, .arr { maxLen := some 2 } (.prim .string { minLen := some 1 })),
        ("m", false, .map {} (.prim .string {}) (.prim .boolean {}))]
example : agree sample = true := by decide +kernel
example : accepts 5 (schemaOf sample) (.obj [("id", .num ⟨3, 1⟩), ("tags", .arr [.str "a" true true])]) = true := by decide +kernel
example : accepts 5 (schemaOf sample) (.obj [("id", .num ⟨0, 1⟩)]) = false := by decide +kernel
example : accepts 5 (schemaOf sample) (.obj [("tags", .arr [])]) = false := by decide +kernel

end GoaVerif.Props.C14
