import GoaVerif.Lemmas.DupHeap
import GoaVerif.Lemmas.DupEq
import GoaVerif.Lemmas.TypeHash
/-!
# C13 — structural hashes: property theorems
Model `GoaVerif.Model.TypeHash` (hand-written from expr/hasher.go, separator constants from
tie T2, tie T3 `rtexpr` ↔ `drv_hash` on the exact hash strings, all 8 flag combinations).
Copy independence (`Dup`): heap model `GoaVerif.Model.DupHeap` with frame, freshness and independence
theorems below; on the implementation a reflective pointer-disjointness oracle and mutation scripts
(rtexpr) report which mutable cells copy and original share.
-/
namespace GoaVerif.Props.C13
open GoaVerif.TypeHash

def setNode (g : Graph) (n : Nat) (x : Node) : Graph := { g with nodes := g.nodes.set n x }
def setAtt (g : Graph) (a : Nat) (x : Attr) : Graph := { g with atts := g.atts.set a x }

/-- **Attribute order does not matter.** Declaring the attributes of an object in another
    order (names distinct) leaves the hash unchanged — from every root, for all flags. -/
theorem hash_perm_object (g : Graph) (f : Flags) (n : Nat) (fields fields' : List (String × Nat))
    (hn : g.nodes[n]? = some (.obj fields)) (hp : fields.Perm fields')
    (hd : (fields.map (·.1)).Nodup) (fuel root : Nat) :
    hashOf (setNode g n (.obj fields')) f fuel root = hashOf g f fuel root :=
  hashOf_congr (Agree.set_node (y := .obj fields') hn (congrArg Node.obj (sortByName_perm _ _ hp hd))) f fuel root

/-- **Union alternatives order does not matter** (after `fix:` c1e42f3). -/
theorem hash_perm_union (g : Graph) (f : Flags) (n : Nat) (name : String) (vals vals' : List (String × Nat))
    (hn : g.nodes[n]? = some (.union name vals)) (hp : vals.Perm vals')
    (hd : (vals.map (·.1)).Nodup) (fuel root : Nat) :
    hashOf (setNode g n (.union name vals')) f fuel root = hashOf g f fuel root :=
  hashOf_congr (Agree.set_node (y := .union name vals') hn (congrArg (Node.union name) (sortByName_perm _ _ hp hd))) f fuel root

/-- what the hash reads of the metadata does not depend on the order in which a Go map
    iteration happens to visit it (keys of a map are distinct) -/
theorem meta_order_indep (md md' : List (String × List String)) (hp : md.Perm md')
    (hd : (md.map (·.1)).Nodup) :
    fieldTags md = fieldTags md' ∧ ∀ nm, effName nm md = effName nm md' := by
  constructor
  · unfold fieldTags keyLE
    rw [isort_perm_eq _ _ (hp.filter _) (hd.sublist (List.filter_sublist.map _))]
  · intro nm
    unfold effName
    rw [find?_perm hp fun a ha b hb h1 h2 =>
      nodup_map_inj (·.1) hd a ha b hb ((beq_iff_eq.mp h1).trans (beq_iff_eq.mp h2).symm)]

/-- **Map iteration order does not matter** (after `fix:` fbb1e69): replacing the metadata of
    an attribute by any reordering of it leaves every hash unchanged. -/
theorem hash_order_indep (g : Graph) (f : Flags) (a : Nat) (ty : Nat) (md md' : List (String × List String))
    (ha : g.atts[a]? = some ⟨ty, md⟩) (hp : md.Perm md') (hd : (md.map (·.1)).Nodup) (fuel root : Nat) :
    hashOf (setAtt g a ⟨ty, md'⟩) f fuel root = hashOf g f fuel root := by
  obtain ⟨ht, hnm⟩ := meta_order_indep md md' hp hd
  exact hashOf_congr (Agree.set_att (y := ⟨ty, md'⟩) ha rfl ht hnm) f fuel root

/-- with `ignoreFields` a user type hashes to its (effective) name only -/
theorem hash_ignore_fields (g : Graph) (n : Nat) (name : String) (a : Nat) (r : Bool) (inn it : Bool) (fuel : Nat)
    (hn : g.nodes[n]? = some (.user name a r)) :
    hashOf g ⟨true, inn, it⟩ (fuel + 1) n =
      Generated.FactsHasher.userTypePrefix ++ (if r then name else effName name (g.attMeta a)) := by
  unfold hashOf TypeHash.hash
  simp [hn]

/-! ### Known finding: equal hash does not imply structural equality (separators may occur in names) -/

def gCollide1 : Graph := ⟨[.obj [("a/string-b", 0)], .prim "string"], [⟨1, []⟩]⟩
def gCollide2 : Graph := ⟨[.obj [("a", 0), ("b", 0)], .prim "string"], [⟨1, []⟩]⟩

/-- `{"a/string-b": String}` and `{"a": String, "b": String}` have the same hash under each
    of the four flag combinations below, that of `Equal` (`⟨false, true, true⟩`) among them: `Equal` holds
    although the types differ. -/
theorem hash_not_complete :
    ∀ f ∈ [Flags.mk false false false, ⟨false, true, true⟩, ⟨true, false, true⟩, ⟨false, false, true⟩],
      hashOf gCollide1 f 8 0 = hashOf gCollide2 f 8 0 := by
  decide +kernel

/-! ### Known finding: inside a recursive type the hash depends on sharing -/

/-- `T = { a: O, b: O }` with ONE object `O = { t: T }` used by both attributes -/
def gShared : Graph := ⟨[.user "T" 0 false, .obj [("a", 1), ("b", 2)], .obj [("t", 3)]],
                        [⟨1, []⟩, ⟨2, []⟩, ⟨2, []⟩, ⟨0, []⟩]⟩
/-- the structurally equal type with two separate objects `{ t: T }` (what `Dup` builds from `gShared`) -/
def gUnshared : Graph := ⟨[.user "T" 0 false, .obj [("a", 1), ("b", 2)], .obj [("t", 3)], .obj [("t", 4)]],
                          [⟨1, []⟩, ⟨2, []⟩, ⟨3, []⟩, ⟨0, []⟩, ⟨0, []⟩]⟩

/-- The two graphs are structurally equal (they unfold to the same infinite tree) but hash differently:
    a reference to an object still being hashed contributes the text accumulated so far, which is
    longer at the second attribute, and a shared object is hashed once. `Equal(T, Dup(T))` is false
    for the real code on this type (known finding `hash/sharing-in-cycle`). -/
theorem hash_sharing_in_cycle :
    hashOf gShared ⟨false, false, false⟩ 12 0 = "_t_T!_o_-a/_o_-t/_t_T!_o_-b/_o_-t/_t_T!_o_" ∧
    hashOf gUnshared ⟨false, false, false⟩ 12 0 = "_t_T!_o_-a/_o_-t/_t_T!_o_-b/_o_-t/_t_T!_o_-a/_o_-t/_t_T!_o_" := by
  decide +kernel

/-! ### Copies: heap model of `Dup` (Model/DupHeap.lean) -/

section dup
open GoaVerif.DupHeap

/-- **Frame.** `Dup` never changes a cell of the heap it copies from: the original heap is a prefix of
    the heap after the copy, for every heap (cyclic or not), every root and every amount of fuel. -/
theorem dup_frame (fuel : Nat) (heap : List Cell) (root r : Nat) (heap' : List Cell)
    (h : dupTop fuel heap root = some (r, heap')) : ∀ i, i < heap.length → heap'[i]? = heap[i]? :=
  fun _ => getElem?_of_prefix (dupTop_spec h).1

/-- the pointers a copy owns lead from `a` to `b` -/
inductive Reaches (heap : List Cell) : Nat → Nat → Prop where
  | refl (a : Nat) : Reaches heap a a
  | step {a b p : Nat} {c : Cell} : Reaches heap a b → heap[b]? = some c → p ∈ c.ptrs → Reaches heap a p

/-- **Freshness.** Everything reachable from the copy (through attribute, element, key, field,
    alternative, metadata and validation pointers) is a cell allocated by this `Dup`, or a primitive. -/
theorem dup_fresh (fuel : Nat) (heap : List Cell) (root r : Nat) (heap' : List Cell)
    (h : dupTop fuel heap root = some (r, heap')) (q : Nat) (hq : Reaches heap' r q) :
    heap.length ≤ q ∨ ∃ n, heap'[q]? = some (.prim n) := by
  have s := dupTop_spec h
  induction hq with
  | refl => exact s.2.1
  | @step b p c _ hc hp ih =>
    rcases ih with hb | ⟨n, hn⟩
    · exact (s.2.2 b c hb hc).resolve_left nofun p hp
    · cases hn.symm.trans hc
      cases hp

/-- **Independence.** Overwriting any non-primitive cell reachable from the copy leaves every cell of
    the original as it was before the copy: changing the copy never changes the original. -/
theorem dup_independent (fuel : Nat) (heap : List Cell) (root r : Nat) (heap' : List Cell)
    (h : dupTop fuel heap root = some (r, heap')) (q : Nat) (hq : Reaches heap' r q)
    (hnp : ∀ n, heap'[q]? ≠ some (.prim n)) (c : Cell) :
    ∀ i, i < heap.length → (heap'.set q c)[i]? = heap[i]? := by
  intro i hi
  have hfresh : heap.length ≤ q :=
    (dup_fresh fuel heap root r heap' h q hq).resolve_right fun ⟨n, hn⟩ => hnp n hn
  rw [List.getElem?_set_ne (by omega)]
  exact dup_frame fuel heap root r heap' h i hi

def hRec : List Cell :=
  [.user "T" 1 none, .att 2 (some 4) none, .obj [("self", 3), ("n", 5)], .att 0 none (some 7), .blob "meta", .att 6 none none,
   .prim "string", .blob "validation"]

/-- non-vacuity: a recursive type `T = { self: T, n: String }` with metadata and a validation is copied
    (8 cells become 14; the copy is rooted at address 8, refers to the primitive at 6 and to nothing else
    below 8) -/
example : dupTop 10 hRec 0 =
    some (8, hRec ++ [.user "T" 14 none, .blob "meta", .blob "validation", .att 8 none (some 10), .att 6 none none,
                      .obj [("self", 11), ("n", 12)], .att 13 (some 9) none]) := by decide +kernel

/-- **Equality.** The copy `Dup` returns is equal to the original: the tree that can be observed from the
    root of the copy — constructors, type names, attribute names, metadata and validation contents, to ANY
    depth, through cycles — is the tree observed from the original root. Hypotheses: the original heap is
    closed under its pointers, and a type name identifies one user type (the memo of `dupper` is keyed by
    the name); `hroot` is not needed (`dup_lt`: a copy that succeeds started inside the heap). The `Views` of a
    result type are outside the observation (`views_shared`). -/
theorem dup_equal (fuel : Nat) (heap : List Cell) (root r : Nat) (heap' : List Cell)
    (hc : Closed heap) (hu : UniqueIds heap) (hroot : root < heap.length)
    (h : dupTop fuel heap root = some (r, heap')) :
    ∀ n, obs n heap' r = obs n heap root :=
  dupTop_equal heap hc hu fuel root r heap' h

/-- the hypotheses hold of the recursive example -/
example : closedB hRec = true ∧ uniqueIdsB hRec = true := by decide +kernel
example : Closed hRec ∧ UniqueIds hRec := ⟨closed_of_closedB (by decide +kernel), uniqueIds_of_uniqueIdsB (by decide +kernel)⟩

/-- `UniqueIds` is needed: two DIFFERENT user types with one name are merged by the memo — the copy of
    the second is the copy of the first (both attributes of the copy point at cell 9, a `T` over `int`;
    the original's `b` was a `T` over `string`). -/
def hTwoNamesakes : List Cell :=
  [.obj [("a", 1), ("b", 4)], .att 2 none none, .user "T" 3 none, .att 7 none none,
   .att 5 none none, .user "T" 6 none, .att 8 none none, .prim "int", .prim "string"]
theorem namesakes_are_merged :
    uniqueIdsB hTwoNamesakes = false ∧
    dupTop 12 hTwoNamesakes 0 = some (13, hTwoNamesakes ++
      [.user "T" 10 none, .att 7 none none, .att 9 none none, .att 9 none none, .obj [("a", 11), ("b", 12)]]) := by
  decide +kernel

def hViews : List Cell := [.user "R" 1 (some 3), .att 2 none none, .prim "string", .blob "views"]

/-- **Known finding (witness).** The copy of a result type keeps the address of the original's `Views`
    slice: `ResultTypeExpr.Dup` does not copy it (`dup/shared/ResultTypeExpr.Views`). -/
theorem views_shared : dupTop 5 hViews 0 = some (4, hViews ++ [.user "R" 5 (some 3), .att 2 none none]) := rfl

end dup

/-! ### Non-vacuity -/
example : hashOf ⟨[.user "T" 0 false, .obj [("b", 1), ("a", 2)], .prim "int", .arr 3],
                  [⟨1, [("struct:field:name", ["N"])]⟩, ⟨2, []⟩, ⟨3, []⟩, ⟨0, []⟩]⟩ ⟨false, false, false⟩ 12 0
    = "_t_T+struct:field:name[N]!_o_-a/_a__t_T+struct:field:name[N]!_o_-b/int" := by decide +kernel

end GoaVerif.Props.C13
