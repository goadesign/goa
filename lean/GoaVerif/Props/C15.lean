import GoaVerif.Lemmas.Encoding
import GoaVerif.Generated.TrStatus
/-!
# C15 — content negotiation: property theorems
Model `GoaVerif.Model.Encoding` (hand-written, tie T3 through `rtenc`/`drv_enc`);
`mime.ParseMediaType` is the oracle `pm`, constrained only by the explicit hypotheses
`PMIdem` and `PMConst`, which the correspondence run checks on the real `mime` package
for every string it meets.
-/
namespace GoaVerif.Props.C15
open GoaVerif.Encoding

/-- H1: a media type returned without error parses to itself. -/
def PMIdem (pm : PM) : Prop := ∀ s mt, pm s = (mt, true) → pm mt = (mt, true)

/-- H2: the five media types goa names parse to themselves. -/
def PMConst (pm : PM) : Prop :=
  ∀ c ∈ ["application/json", "application/xml", "application/gob", "text/html", "text/plain"],
    pm c = (c, true)

/-- The response encoder is never nil, whatever the Accept value, the designed content
    type, the pre-set header and the behaviour of the media type parser. -/
theorem encoder_never_nil (pm : PM) (accept ct preset : String) :
    (responseEncoder pm accept ct preset).1 ≠ none := by
  by_cases hct : ct = ""
  · obtain ⟨p, -, he⟩ := responseEncoder_negotiated pm accept preset
    simp [hct, he]
  · rw [responseEncoder_designed pm accept preset hct]
    split <;> simp

/-- Missing or unrecognised preferences fall back to JSON. -/
theorem fallback_json (pm : PM) (accept : String)
    (h1 : (negotiate accept).1 = none)
    (h2 : (pm accept).2 = false ∨ (negotiate (pm accept).1).1 = none) :
    responseEncoder pm accept "" "" = (some .json, "application/json") := by
  unfold responseEncoder
  rw [if_neg (by decide)]
  simp only [h1, setContentType_empty]
  rcases h2 with h2 | h2 <;> simp [h2]

theorem negotiate_some (a : String) (f : Fmt) (m : String) (h : negotiate a = (some f, m)) :
    (m = "application/json" ∧ f = .json) ∨ (m = "application/xml" ∧ f = .xml) ∨
    (m = "application/gob" ∧ f = .gob) ∨ (m = "text/html" ∧ f = .text) ∨ (m = "text/plain" ∧ f = .text) := by
  simpa [named] using negotiate_named h

/-- the response decoder on a named media type selects its codec -/
theorem decoder_named (pm : PM) (hc : PMConst pm) {m : String} {f : Fmt} (h : (m, f) ∈ named) :
    responseDecoder pm m = f := by
  have hp := hc m (List.mem_map_of_mem (f := Prod.fst) h)
  simp [responseDecoder, normCT_of_ok hp, named_bySuffix _ h]

/-- … and on a media type the parser returned, the codec of the suffix switch -/
theorem decoder_parsed (pm : PM) (h1 : PMIdem pm) {ct mt : String} (hp : pm ct = (mt, true)) :
    responseDecoder pm mt = bySuffix mt := by
  unfold responseDecoder
  by_cases he : mt = ""
  · rw [if_pos (beq_iff_eq.mpr he), he]; decide +kernel
  · rw [if_neg (by simpa using he), normCT_of_ok (h1 ct mt hp)]

/-- **Response round trip (no pre-set header).** For every Accept value and every designed
    content type, the decoder that `ResponseDecoder` selects from the Content-Type header
    written by `ResponseEncoder` has the format of the encoder it returned. -/
theorem resp_roundtrip (pm : PM) (h1 : PMIdem pm) (h2 : PMConst pm) (accept ct : String) :
    (responseEncoder pm accept ct "").1
      = some (responseDecoder pm (responseEncoder pm accept ct "").2) := by
  by_cases hct : ct = ""
  · obtain ⟨p, hp, he⟩ := responseEncoder_negotiated pm accept ""
    rw [hct, he, setContentType_empty, decoder_named pm h2 hp]
  · rw [responseEncoder_designed pm accept "" hct]
    split
    · rw [setContentType_empty, decoder_parsed pm h1 (Prod.ext rfl ‹_› : pm ct = ((pm ct).1, true))]
    · rw [setContentType_empty, decoder_named pm h2 (.head _)]

/-- Suffix rules agree on both sides: for a designed content type that parses, the encoder
    format is the decoder format of the parsed media type. -/
theorem suffix_rules (pm : PM) (h1 : PMIdem pm) (ct mt preset : String) (hct : ct ≠ "")
    (hp : pm ct = (mt, true)) (hmt : mt ≠ "") :
    (responseEncoder pm "" ct preset).1 = some (responseDecoder pm mt) := by
  rw [responseEncoder_designed pm "" preset hct, decoder_parsed pm h1 hp, hp]; rfl

/-- **Pre-set header, partial.** When the handler or a middleware already set a Content-Type
    that carries no structured-syntax suffix (`+`), and appending a suffix to it still parses
    to a media type carrying that suffix (`hs`, checked on the real parser in the run), the
    round trip holds for JSON. (The full statement without these restrictions is false on the
    pinned tree: see `preset_suffix_witness`, `preset_params_witness`.) -/
theorem resp_roundtrip_preset_json_partial (pm : PM) (accept preset : String)
    (hne : preset ≠ "") (hplus : hasPlus preset = false)
    (hneg : negotiate accept = (some .json, "application/json"))
    (hs : ∀ m, pm (preset ++ "+json") = (m, true) → sfx m "+json" = true) :
    (responseEncoder pm accept "" preset).1
      = some (responseDecoder pm (responseEncoder pm accept "" preset).2) := by
  have hset : setContentType preset "application/json" = preset ++ "+json" := by
    simp [setContentType, hne, hplus]
  have henc : responseEncoder pm accept "" preset = (some .json, preset ++ "+json") := by
    simp [responseEncoder, hneg, hset]
  -- whatever the parser makes of the header, the media type the decoder switches on ends in "+json"
  have hsfx : sfx (normCT pm (preset ++ "+json")) "+json" = true := by
    unfold normCT
    by_cases hok : (pm (preset ++ "+json")).2 = true
    · rw [if_pos hok]; exact hs _ (Prod.ext rfl hok)
    · rw [if_neg hok]; simp [sfx, String.toList_append]
  simp [henc, responseDecoder, bySuffix, hsfx]

/-! ### Negation witnesses for the full-strength statement with a pre-set header
(known findings, replayed on the implementation by every run) -/

/-- a parser that accepts everything unchanged -/
def pmId : PM := fun s => (s, true)
/-- a parser that strips parameters -/
def pmStrip : PM := fun s => (String.ofList (s.toList.takeWhile (· ≠ ';')), true)

/-- Pre-set `…+xml`, JSON negotiated: the body is JSON but the header keeps announcing XML. -/
theorem preset_suffix_witness :
    let r := responseEncoder pmId "" "" "application/vnd.x+xml"
    r = (some .json, "application/vnd.x+xml") ∧ responseDecoder pmId r.2 = .xml := by decide +kernel

/-- Pre-set header with parameters, XML negotiated: the suffix lands after the parameters,
    the media type seen by the decoder has no suffix and JSON is selected for an XML body. -/
theorem preset_params_witness :
    let r := responseEncoder pmStrip "application/xml" "" "a/b;c=d"
    r = (some .xml, "a/b;c=d+xml") ∧ responseDecoder pmStrip r.2 = .json := by decide +kernel

/-- The request decoder decodes only the five named media types; anything else is the
    unsupported decoder, never "something else". -/
theorem request_table (pm : PM) (h : String) (f : Fmt) (hd : requestDecoder pm h = .fmt f) :
    (reqCT pm h = "application/json" ∧ f = .json) ∨ (reqCT pm h = "application/gob" ∧ f = .gob) ∨
    (reqCT pm h = "application/xml" ∧ f = .xml) ∨
    ((reqCT pm h = "text/html" ∨ reqCT pm h = "text/plain") ∧ f = .text) := by
  have := reqTable_fmt hd
  simp only [named, List.mem_cons, Prod.mk.injEq, List.not_mem_nil, or_false] at this
  rcases this with h | h | h | h | h <;> simp only [h, and_self, true_or, or_true]

/-- Conversely every other media type gets the unsupported decoder, carrying that type. -/
theorem request_unsupported (pm : PM) (h : String)
    (hn : reqCT pm h ∉ ["application/json", "application/gob", "application/xml", "text/html", "text/plain"]) :
    requestDecoder pm h = .unsupported (reqCT pm h) :=
  reqTable_unsupported (by simpa [named, or_left_comm] using hn)

/-- An unsupported media type is answered 415: the unsupported decoder's error has the name
    `unsupported_media_type`, for which the regenerated `StatusCode` returns 415 whatever the flags. -/
theorem unsupported_415 (r : Generated.TrStatus.ErrorResponse) (h : r.Name = "unsupported_media_type") :
    Generated.TrStatus.httpStatusCode r = 415 := by
  rw [Generated.TrStatus.httpStatusCode, if_pos (beq_iff_eq.mpr h)]; rfl

/-- Request round trip: the request encoder writes JSON and announces JSON when the caller
    set no Content-Type; the request decoder then selects JSON. -/
theorem req_roundtrip (pm : PM) (h2 : PMConst pm) :
    requestDecoder pm (requestEncoder "").2 = .fmt (requestEncoder "").1 := by
  have := h2 "application/json" (by simp)
  unfold requestDecoder requestEncoder reqCT reqTable normCT
  simp [this]

/-! ### Non-vacuity -/
example : PMIdem pmId ∧ PMConst pmId := by
  constructor
  · intro s mt h; simp [pmId] at h ⊢
  · intro c _; rfl
example : responseEncoder pmId "application/xml" "" "" = (some .xml, "application/xml") := by decide +kernel
example : responseEncoder pmId "" "application/vnd.goa.thing+gob" "" = (some .gob, "application/vnd.goa.thing+gob") := by decide +kernel
example : requestDecoder pmId "application/yaml" = .unsupported "application/yaml" := by decide +kernel

end GoaVerif.Props.C15
