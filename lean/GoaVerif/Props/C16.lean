import GoaVerif.Model.FullPaths
import GoaVerif.Lemmas.Mux
/-!
# C16 — router: property theorems
Model `GoaVerif.Model.Mux` (hand-written; tie T3 `rtmux` ↔ `drv_mux`; chi's radix tree is
represented by the specification matcher `matchSegs`/`dispatch`, validated against the real
router by the correspondence run and otherwise trusted).
-/
namespace GoaVerif.Props.C16
open GoaVerif.Mux

/-- `url.PathUnescape ∘ url.PathEscape = id` on every byte string. -/
theorem escape_roundtrip (v : Bytes) : unescape (pathEscape v) = some v := unescape_pathEscape v

/-- An escaped value is a single path segment. -/
theorem escaped_is_one_segment (v : Bytes) : splitSlash (pathEscape v) = [pathEscape v] :=
  splitSlash_noslash _ (no_slash_pathEscape v)

/-- the request target built from a literal segment `l` and an escaped value -/
def target (l v : Bytes) : Bytes := slash :: (l ++ slash :: pathEscape v)

/-- what the server makes of that target: the decoded path, and `RawPath` empty exactly when
    both escaping modes agree on `v` -/
theorem setPath_target (l v : Bytes) (hl : Clean l) :
    setPath (target l v) =
      some (slash :: (l ++ slash :: v),
            if escapePath v = pathEscape v then [] else target l v) := by
  have h := setPath_prefix (slash :: (l ++ [slash])) v fun c hc => by
    rw [List.mem_cons, List.mem_append, List.mem_singleton] at hc
    rcases hc with rfl | hc | rfl
    · exact path_slash
    · exact (hl c hc).1
    · exact path_slash
  simpa [target] using h

/-- The path chi routes on for `target l v` is `/l/x` with `x` free of slashes: `x` is `v` itself
    (no longer escaped) when both escaping modes agree on `v`, else `pathEscape v` (still escaped).
    Either way un-escaping `x` as `Vars` does gives back `v`. -/
private theorem routePath_target (l v : Bytes) (hl : Clean l) :
    ∃ x esc, routePath (target l v) = some (slash :: (l ++ slash :: x), esc) ∧ slash ∉ x ∧
      (x = [] → v = []) ∧ (if esc then unescapeOrRaw x else x) = v := by
  rw [routePath, setPath_target l v hl, Option.map_some]
  by_cases he : escapePath v = pathEscape v
  · exact ⟨v, false, by simp [he], no_slash_of_escapes_agree v he, id, rfl⟩
  · exact ⟨pathEscape v, true, by simp [he, target], no_slash_pathEscape v, escapeWith_eq_nil _ v,
      by simp [unescapeOrRaw, unescape_pathEscape]⟩

/-- `Vars` on `/l/s` for a last segment `s` that captures any one piece `x` under `name`
    (`hm`; a `{name}` does so unless `x` is empty). -/
private theorem vars_roundtrip (m name : String) (l v : Bytes) (s : Seg) (hl : Clean l)
    (hm : ∀ x : Bytes, (x = [] → v = []) → matchSegs [.lit l, s] [l, x] = some [(name, x)]) :
    vars [⟨m, [.lit l, s], 0⟩] m (target l v) = some (0, [(name, v)]) := by
  obtain ⟨x, esc, hr, hx, hnil, hv⟩ := routePath_target l v hl
  have hls : slash ∉ l := fun h => (hl slash h).2.2 rfl
  have hd := dispatch_singleton ⟨m, [.lit l, s], 0⟩ (l ++ slash :: x)
  rw [splitSlash_lit l x hls, splitSlash_noslash x hx, hm x hnil] at hd
  simp only [vars, hr, hd, Option.map_some, List.map_cons, List.map_nil, hv]

/-- **Single-segment wildcard.** A URL built by substituting the escaped value into
    `/l/{name}` is routed to that pattern and `Vars` yields exactly the original bytes —
    whatever they are (`/`, `%`, `%XX` look-alikes, `+`, spaces, non-UTF-8 …), provided the
    value is not empty. -/
theorem vars_roundtrip_param (m name : String) (l v : Bytes) (hl : Clean l) (hv : v ≠ []) :
    vars [⟨m, [.lit l, .param name], 0⟩] m (target l v) = some (0, [(name, v)]) :=
  vars_roundtrip m name l v _ hl fun x hx => by
    rw [matchSegs_lit, matchSegs, beq_false_of_ne fun e => hv (hx e)]; rfl

/-- **Trailing catch-all.** Same statement for `/l/{*name}`, for every value including the
    empty one and values containing slashes. -/
theorem vars_roundtrip_catchall (m name : String) (l v : Bytes) (hl : Clean l) :
    vars [⟨m, [.lit l, .catchAll name], 0⟩] m (target l v) = some (0, [(name, v)]) :=
  vars_roundtrip m name l v _ hl fun _ _ => matchSegs_lit ..

/-- The `wildcards` table is keyed by method *and* rewritten pattern: two catch-all routes
    with the same prefix under different methods keep their own wildcard names. The table is where
    `ResolvePattern` and, in http/mux.go, `Vars` find the name for the request's method (the model's
    `vars` does not go through it: it takes the name from the pattern that matched). -/
theorem wildcard_names_per_method (l : Bytes) (a b : String) :
    let routes : List Route := [⟨"GET", [.lit l, .catchAll a], 0⟩, ⟨"PUT", [.lit l, .catchAll b], 1⟩]
    wildcardName routes "GET" (chiText [.lit l, .catchAll a]) = some a ∧
    wildcardName routes "PUT" (chiText [.lit l, .catchAll b]) = some b := by
  -- chi's text does not show the wildcard's name: the two keys differ in the method only
  have hk : chiText [.lit l, .catchAll a] = chiText [.lit l, .catchAll b] := rfl
  simp [wildcardName, hk]

/-! ### Witness of the repaired defect and non-vacuity -/

/-- the pinned code (before 938fc93) decoded values twice: with the value `100%25` the once-decoded
    text still contains `%25`; decoding again gives `100%` — the model after the fix returns the value -/
example : vars [⟨"GET", [.lit "users".toUTF8.toList, .param "id"], 0⟩] "GET"
    (target "users".toUTF8.toList [49, 48, 48, 37, 50, 53]) = some (0, [("id", [49, 48, 48, 37, 50, 53])]) := by
  decide +kernel

example : Clean [117, 115, 101, 114, 115] := by
  unfold Clean; decide

example : pathEscape [97, 47, 98, 32, 37] = [97, 37, 50, 70, 98, 37, 50, 48, 37, 50, 53] := by decide +kernel

/-! ### The patterns a route is mounted under (`Model/FullPaths.lean`, tied by `rtmux fullpaths` ↔ `drv_mux fullpaths`) -/
section fullpaths
open GoaVerif.FullPaths

/-- one pattern per base path of the service, in order -/
theorem routePaths_length (r : String) (bs : List String) : (routePaths r bs).length = bs.length :=
  List.length_map _

/-- **every base path is decided on its own**: the pattern under one base path (trailing slash included) does not depend on
    the base paths listed before or after it -/
theorem routePaths_per_base (r : String) (bs cs : List String) :
    routePaths r (bs ++ cs) = routePaths r bs ++ routePaths r cs :=
  List.map_append

theorem routePaths_nth (r : String) (bs : List String) (i : Nat) (h : i < bs.length) :
    (routePaths r bs)[i]'(by simpa [routePaths] using h) = routePath r bs[i] :=
  List.getElem_map _

-- concrete values (e.g. `routePaths "/" ["/a/", "/b", "/c/{id}"] = ["/a/", "/b", "/c/{id}"]`) are exercised by the driver: `String.splitOn`
-- does not reduce in the kernel
end fullpaths

end GoaVerif.Props.C16
