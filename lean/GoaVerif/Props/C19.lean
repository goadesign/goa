import GoaVerif.Lemmas.Middleware
import GoaVerif.Generated.TrSampler
/-!
# C19 — request-ID and trace middlewares: property theorems
Model `GoaVerif.Model.Middleware` (hand-written, tie T3 through `rtmw`/`drv_mw`, HTTP and
gRPC unary/stream variants all compared against the same functions) and the regenerated
`fixedSampler.Sample` (tie T1).
-/
namespace GoaVerif.Props.C19
open GoaVerif.Middleware GoaVerif.Generated

/-- Every request carries a non-empty request ID, whatever the options and inbound values,
    provided the ID generator does not return the empty string. -/
theorem reqid_nonempty (o : RIDOpts) (hdr : Bytes) (ctx : Option Bytes) (fresh : Bytes)
    (hf : fresh ≠ []) : requestID o hdr ctx fresh ≠ [] :=
  generateRequestID_ne_nil o _ hf

/-- Trusted inbound value: the ID is the inbound header/metadata value, truncated to the
    limit (in bytes) when a positive limit is configured. -/
theorem reqid_trusted (o : RIDOpts) (hdr : Bytes) (ctx : Option Bytes) (fresh : Bytes)
    (hu : o.use = true) (hh : hdr ≠ []) :
    requestID o hdr ctx fresh =
      if o.limit > 0 ∧ (hdr.length : Int) > o.limit then hdr.take o.limit.toNat else hdr := by
  rw [requestID, inboundCtx, if_pos ⟨hu, hh⟩, generateRequestID_some fresh hu hh]

/-- The truncated ID never exceeds the limit. -/
theorem reqid_limit (o : RIDOpts) (hdr : Bytes) (ctx : Option Bytes) (fresh : Bytes)
    (hu : o.use = true) (hh : hdr ≠ []) (hl : o.limit > 0) :
    ((requestID o hdr ctx fresh).length : Int) ≤ max o.limit 0 ∨
    requestID o hdr ctx fresh = hdr ∧ (hdr.length : Int) ≤ o.limit := by
  rw [reqid_trusted o hdr ctx fresh hu hh]
  by_cases hlen : (hdr.length : Int) > o.limit
  · rw [if_pos ⟨hl, hlen⟩, List.length_take]; left; omega
  · rw [if_neg fun h => hlen h.2]; exact .inr ⟨rfl, by omega⟩

/-- Untrusted: a fresh identifier, whatever arrives. -/
theorem reqid_fresh (o : RIDOpts) (hdr : Bytes) (ctx : Option Bytes) (fresh : Bytes)
    (hu : o.use = false) : requestID o hdr ctx fresh = fresh :=
  generateRequestID_fresh fresh (.inl hu)

/-- Trusted but nothing inbound: fresh. -/
theorem reqid_fresh_absent (o : RIDOpts) (fresh : Bytes) :
    requestID o [] none fresh = fresh := by
  rw [requestID, inboundCtx, if_neg (fun h => h.2 rfl)]
  exact generateRequestID_fresh fresh (.inr rfl)

/-- Options: the default is "always generate"; naming a header enables trust. -/
theorem opts_default : (newOpts []).use = false := rfl
theorem opts_header_enables (l : List RIDOpt) (n : String) :
    (newOpts (l ++ [.header n])).use = true ∧ (newOpts (l ++ [.header n])).header = n := by
  simp [newOpts, List.foldl_append, applyOpt]
theorem opts_use_last (l : List RIDOpt) (f : Bool) :
    (newOpts (l ++ [.useReqID f])).use = f := by
  simp [newOpts, List.foldl_append, applyOpt]

/-- A request that arrives with a trace ID keeps it, whatever the sampling and discard
    decisions; the caller's span becomes the parent; the span is the fresh one. -/
theorem trace_keep (hT hP : Bytes) (d s : Bool) (nt ns : Bytes) (h : hT ≠ []) :
    trace hT hP d s nt ns = some ⟨hT, ns, if hP ≠ [] then some hP else none⟩ := by
  unfold trace; simp [h]

/-- Without inbound trace: traced iff not discarded and sampled (and the generator is sane). -/
theorem trace_new (hP : Bytes) (d s : Bool) (nt ns : Bytes) (hnt : nt ≠ []) :
    trace [] hP d s nt ns =
      if !d && s then some ⟨nt, ns, if hP ≠ [] then some hP else none⟩ else none := by
  unfold trace
  cases d <;> cases s <;> simp [hnt]

theorem trace_some (hT hP : Bytes) (d sm : Bool) (nt ns : Bytes) (s : Span)
    (h : trace hT hP d sm nt ns = some s) : s.trace ≠ [] ∧ s.span = ns := by
  unfold trace at h
  extract_lets id at h
  split at h
  · cases h
  · cases h; exact ⟨‹_›, rfl⟩

/-- **Chains.** Once a hop is traced, the next hop through a traced client is traced with the
    same trace ID and has the previous hop's span as its parent (spans non-empty). -/
theorem chain_step (hT hP : Bytes) (sampled : Nat → Bool) (ids : Nat → Bytes × Bytes)
    (hs : ∀ k, (ids k).2 ≠ []) (k n : Nat) (s : Span)
    (h0 : (chain hT hP sampled ids k (n + 2))[0]? = some (some s)) :
    ∃ s', (chain hT hP sampled ids k (n + 2))[1]? = some (some s') ∧
      s'.trace = s.trace ∧ s'.parent = some s.span := by
  have h0 : trace hT hP false (sampled k) (ids k).1 (ids k).2 = some s := Option.some.inj h0
  obtain ⟨hne, hspan⟩ := trace_some _ _ _ _ _ _ _ h0
  rw [chain_traced h0, chain_traced (trace_keep _ _ _ _ _ _ hne)]
  exact ⟨_, rfl, rfl, if_pos (hspan ▸ hs k)⟩

/-- Suffix of a chain is a chain. -/
theorem chain_drop (hT hP : Bytes) (sampled : Nat → Bool) (ids : Nat → Bytes × Bytes) (k n : Nat) :
    ∃ hT' hP', (chain hT hP sampled ids k (n + 1)).tail = chain hT' hP' sampled ids (k + 1) n :=
  ⟨_, _, rfl⟩

/-- All hops of a chain that starts with an inbound trace ID share that trace ID. -/
theorem trace_chain (hT : Bytes) (h : hT ≠ []) (sampled : Nat → Bool) (ids : Nat → Bytes × Bytes)
    (n : Nat) : ∀ (k : Nat) (hP : Bytes), ∀ x ∈ chain hT hP sampled ids k n, ∃ s, x = some s ∧ s.trace = hT := by
  induction n with
  | zero => intro k hP x hx; cases hx
  | succ n ih =>
    intro k hP x hx
    -- the hop keeps `hT` and hands it on: the rest is again a chain with inbound trace ID `hT`
    rw [chain_traced (trace_keep _ _ _ _ _ _ h), List.mem_cons] at hx
    rcases hx with rfl | hx
    · exact ⟨_, rfl, rfl⟩
    · exact ih _ _ x hx

/-- Sampling percentages 0 and 100 are exact for every random number generator. -/
theorem sample_0 (intn : Int → Int) : TrSampler.fixedSample intn 0 = false := by
  simp [TrSampler.fixedSample, Id.run]; rfl
theorem sample_100 (intn : Int → Int) : TrSampler.fixedSample intn 100 = true := by
  simp [TrSampler.fixedSample, Id.run]; rfl

/-- What capture and wire agree on. -/
def CapRel (c : Capture) (w : Wire) : Prop :=
  c.length = w.bytes ∧
  ((w.status = none ∧ c.status = 0) ∨ ∃ s, s ≥ 200 ∧ w.status = some s ∧ c.status = s)

def finalCodes (ops : List WOp) : Prop := ∀ op ∈ ops, ∀ c, op = .writeHeader c → c ≥ 200

theorem cap_step (c : Capture) (w : Wire) (op : WOp) (h : CapRel c w)
    (hc : ∀ k, op = .writeHeader k → k ≥ 200) : CapRel (c.step op) (w.step op) := by
  obtain ⟨hl, ⟨hw, hc0⟩ | ⟨s, hs, hw, hcs⟩⟩ := h
  · -- nothing sent yet: the call fixes the status on both sides
    cases op with
    | writeHeader k => simp [CapRel, Capture.step, Wire.step, hw, hc0, hl, hc k rfl]
    | write n acc => simp [CapRel, Capture.step, Wire.step, hw, hc0, hl]
  · -- status `s ≥ 200` sent: neither side changes it
    have h1 : ¬ s < 200 := by omega
    have h2 : s ≠ 0 := by omega
    cases op with
    | writeHeader k => simp [CapRel, Capture.step, Wire.step, hw, hcs, hl, h1, hs]
    | write n acc => simp [CapRel, Capture.step, Wire.step, hw, hcs, hl, h2, hs]

/-- **Response capture is exact** for every sequence of WriteHeader/Write calls with final
    (≥ 200) status codes: captured status = status actually sent (0 iff nothing was sent),
    captured length = bytes the underlying writer accepted (also when it takes less than it was offered). -/
theorem capture_exact (ops : List WOp) (h : finalCodes ops) :
    CapRel (ops.foldl Capture.step {}) (ops.foldl Wire.step {}) := by
  suffices ∀ c w, CapRel c w → CapRel (ops.foldl Capture.step c) (ops.foldl Wire.step w) from
    this {} {} ⟨rfl, Or.inl ⟨rfl, rfl⟩⟩
  induction ops with
  | nil => intro c w h; exact h
  | cons op ops ih =>
    intro c w hr
    simp only [List.foldl_cons]
    apply ih (fun o ho k hk => h o (List.mem_cons_of_mem _ ho) k hk)
    exact cap_step c w op hr (fun k hk => h op (List.mem_cons_self) k hk)

/-! ### Non-vacuity -/
example : requestID (newOpts [.header "Custom-Id", .limit 3]) [97, 98, 99, 100, 101, 102] none [70]
    = [97, 98, 99] := by decide +kernel
example : (chain [116] [] (fun _ => false) (fun k => ([], [UInt8.ofNat (48 + k)])) 0 3).map
      (fun o => o.map (fun s => (s.trace, s.span, s.parent)))
    = [some ([116], [48], none), some ([116], [49], some [48]), some ([116], [50], some [49])] := by decide +kernel
example : finalCodes [.write 3 3, .writeHeader 404, .write 9 2] ∧
    ([WOp.write 3 3, .writeHeader 404, .write 9 2].foldl Capture.step {}) = ⟨200, 5⟩ := by
  constructor
  · intro op hop c hc; simp at hop; rcases hop with rfl | rfl | rfl <;> simp_all <;> omega
  · decide

end GoaVerif.Props.C19
