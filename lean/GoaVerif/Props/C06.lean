import GoaVerif.Lemmas.Security
/-!
# C06 — secured methods run only after a security requirement is satisfied
Theorems over `Model/Security.lean`; tie T5 (`vlib/c06.py`): every accept/reject vector of the
callbacks on generated servers with a recording Auther, compared with `drv_sec`.
-/
namespace GoaVerif.Props.C06
open GoaVerif.Security

/-- The service method runs iff the method is unsecured or some requirement has all of its
    schemes' callbacks succeed. -/
theorem runs_iff (accept : String → Bool) (reqs : List Req) :
    (endpoint accept reqs).refusedBy = none ↔ reqs = [] ∨ ∃ r ∈ reqs, ∀ s ∈ r, accept s = true := by
  simp only [endpoint, ← evalReq_none_iff]
  fun_induction evalAll accept reqs with
  | case1 => simp
  | case2 r => simp
  | case3 r rs hrs a ha => simp [ha, a]   -- `r` passes: nothing else is tried
  | case4 r rs hrs a g hg b ih =>         -- `r` fails: the answer is that of the rest
    have : rs ≠ [] := hrs
    simp [ih, hg, this, a, b]

/-- When the caller is refused, the error is the one of a callback that refused, and it belongs
    to the last requirement (every requirement was tried). -/
theorem refused_by_callback (accept : String → Bool) (reqs : List Req) (f : String)
    (h : (endpoint accept reqs).refusedBy = some f) :
    accept f = false ∧ ∃ r, reqs.getLast? = some r ∧ f ∈ r := by
  simp only [endpoint] at h
  fun_induction evalAll accept reqs with
  | case1 => cases h
  | case2 r => exact ⟨(evalReq_some _ _ _ h).2, r, rfl, (evalReq_some _ _ _ h).1⟩
  | case3 r rs _ a ha => rw [ha] at h; cases h
  | case4 r rs hrs a g hg b ih =>
    obtain ⟨r2, rs2, rfl⟩ := List.exists_cons_of_ne_nil hrs
    exact ih h

/-- An unsecured method runs without any callback. -/
theorem unsecured_no_callback (accept : String → Bool) : endpoint accept [] = ⟨[], none⟩ := rfl

/-- only schemes of the effective requirements are ever consulted -/
theorem calls_subset (accept : String → Bool) (reqs : List Req) :
    ∀ s ∈ (endpoint accept reqs).calls, ∃ r ∈ reqs, s ∈ r := by
  intro s hs
  simp only [endpoint] at hs
  fun_induction evalAll accept reqs with
  | case1 => cases hs
  | case2 r | case3 r rs _ a ha => exact ⟨r, List.mem_cons_self, evalReq_calls _ _ s hs⟩
  | case4 r rs hrs a g hg b ih =>
    rcases List.mem_append.mp hs with hs | hs
    · exact ⟨r, List.mem_cons_self, evalReq_calls _ _ s hs⟩
    · obtain ⟨x, hx, hm⟩ := ih hs
      exact ⟨x, List.mem_cons_of_mem _ hx, hm⟩

/-- Which requirements apply: `NoSecurity` on the method removes them all; otherwise the method's own,
    else the service's, else the API's. -/
theorem nosecurity_overrides (m s a : List Req) : effective true m s a = [] := rfl
theorem method_overrides (m s a : List Req) (h : m ≠ []) : effective false m s a = m := by
  simp [effective, h]
theorem service_inherited (s a : List Req) (h : s ≠ []) : effective false [] s a = s := by
  simp [effective, h]
theorem api_inherited (a : List Req) : effective false [] [] a = a := rfl

/-- a bearer token arrives with its scheme prefix removed -/
theorem credential_prefix_removed (scheme token : String) (hs : ' ' ∉ scheme.toList) :
    credential true (scheme ++ " " ++ token) = token := by
  have hl : (scheme ++ " " ++ token).toList = scheme.toList ++ ' ' :: token.toList := by
    simp [String.toList_append]
  rw [credential, hl, if_pos (by simp), afterFirstSpace_prefix _ _ hs, String.ofList_toList]

/-- a credential without a space, and any credential outside a header, arrives unchanged -/
theorem credential_unchanged (inHeader : Bool) (sent : String) (h : inHeader = false ∨ ' ' ∉ sent.toList) :
    credential inHeader sent = sent := by
  rw [credential, if_neg]
  rcases h with h | h <;> simp [h]

/-! ### credential fields: each is stripped exactly once per request -/

/-- `n` stripping blocks applied to one value -/
def stripN : Nat → String → String
  | 0, v => v
  | n + 1, v => stripN n (credential true v)

/-- the decoder strips a field as many times as the list it is given names it -/
theorem decodeCreds_count (blocks : List String) (p : Fields) :
    decodeCreds blocks p = p.map (fun gv => (gv.1, stripN (blocks.count gv.1) gv.2)) := by
  induction blocks generalizing p with
  | nil => simp [decodeCreds, stripN]
  | cons b bs ih =>
    rw [show decodeCreds (b :: bs) p = decodeCreds bs (stripField b p) from rfl, ih, stripField_map, List.map_map]
    refine List.map_congr_left fun gv _ => ?_
    simp only [Function.comp, List.count_cons, BEq.comm (a := b)]
    split <;> rfl

/-- the list handed to the decoder names every credential field of the endpoint's header schemes
    exactly once, however many schemes share a field -/
theorem headerSchemes_count (fs : List String) (g : String) :
    (headerSchemes fs).count g = if g ∈ fs then 1 else 0 := by
  have h := appendCred_fold fs [] List.nodup_nil
  unfold headerSchemes
  rw [List.Nodup.count h.1]
  simp [h.2 g]

/-- **each credential is handed to the callbacks with its scheme prefix removed once**: the
    decoded payload's field is `credential true <sent>` for a field some header scheme of the
    endpoint reads, and untouched otherwise — for any number of schemes sharing the field -/
theorem decodeEndpoint_once (fs : List String) (p : Fields) :
    decodeEndpoint fs p = p.map (fun gv => (gv.1, if gv.1 ∈ fs then credential true gv.2 else gv.2)) := by
  unfold decodeEndpoint
  rw [decodeCreds_count]
  apply List.map_congr_left
  intro gv _
  rw [headerSchemes_count]
  by_cases h : gv.1 ∈ fs <;> simp [h, stripN]

/-- what one block per scheme NAME did before commit ff8e971 (two JWT schemes, one `Token` field):
    the second block removes the first word of the token itself -/
theorem one_block_per_scheme_strips_twice :
    decodeCreds ["Token", "Token"] [("Token", "Bearer y z")] = [("Token", "z")] := by decide +kernel

/-! ### Non-vacuity -/
def acc (ok : List String) : String → Bool := fun s => ok.contains s
example : endpoint (acc ["jwt"]) [["basic", "jwt"], ["jwt"]] = ⟨["basic", "jwt"], none⟩ := by decide +kernel
example : endpoint (acc ["basic"]) [["basic", "jwt"], ["key"]] = ⟨["basic", "jwt", "key"], some "key"⟩ := by decide +kernel
example : endpoint (acc []) (effective true [["basic"]] [] []) = ⟨[], none⟩ := by decide +kernel
example : credential true "Bearer a.b.c" = "a.b.c" := by decide +kernel
example : credential false "a b" = "a b" := by decide +kernel
example : decodeEndpoint ["Token", "Token", "Key"] [("Token", "Bearer y z"), ("Key", "k"), ("Other", "a b")]
    = [("Token", "y z"), ("Key", "k"), ("Other", "a b")] := by decide +kernel

end GoaVerif.Props.C06
