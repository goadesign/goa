import GoaVerif.Lemmas.Scope
import GoaVerif.Lemmas.List
/-!
# C01 (proved core) — unique identifier allocation
Model `GoaVerif.Model.Scope` of `codegen.NameScope` (tie T3 `rtscope` ↔ `drv_scope`).
The rest of C01 (every accepted design compiles) is decided by translation validation with
the Go tool chain as the oracle — see vlib/c01.py.
-/
namespace GoaVerif.Props.C01
open GoaVerif.Scope

/-- `Unique` never returns a name that is already in use, whatever the scope contains; the
    probing loop always terminates with a fresh name (`probe_fresh`). -/
theorem unique_fresh (s : Scope) (name : String) (sfx : Option String) :
    (unique s name sfx).2 ∉ s.counts.keys := (unique_spec s name sfx).1

/-- the returned name is reserved afterwards and nothing is forgotten -/
theorem unique_reserves (s : Scope) (name : String) (sfx : Option String) :
    (unique s name sfx).2 ∈ (unique s name sfx).1.counts.keys ∧
    ∀ x ∈ s.counts.keys, x ∈ (unique s name sfx).1.counts.keys := by
  have h := (unique_spec s name sfx).2.1
  exact ⟨(h _).mpr (Or.inr rfl), fun x hx => (h x).mpr (Or.inl hx)⟩

/-- consistency of the two tables -/
def Inv (s : Scope) : Prop :=
  (∀ e ∈ s.names, e.2 ∈ s.counts.keys) ∧ (s.names.map (·.2)).Nodup ∧ (s.names.map (·.1)).Nodup

theorem inv_empty : Inv {} := ⟨by simp, by simp, by simp⟩

/-- one step preserves the invariant, keeps every reserved name and every hash binding -/
theorem step_inv (s : Scope) (op : Op) (hi : Inv s) :
    Inv (step s op).1 ∧ (∀ x ∈ s.counts.keys, x ∈ (step s op).1.counts.keys) ∧
    (∀ e ∈ s.names, e ∈ (step s op).1.names) := by
  obtain ⟨h1, h2, h3⟩ := hi
  cases op with
  | unique n sfx =>
    obtain ⟨_, hk, hn⟩ := unique_spec s n sfx
    simp only [step]
    refine ⟨⟨?_, by rw [hn]; exact h2, by rw [hn]; exact h3⟩, fun x hx => (hk x).mpr (Or.inl hx), by rw [hn]; exact fun e he => he⟩
    intro e he
    rw [hn] at he
    exact (hk _).mpr (Or.inl (h1 e he))
  | hashed hsh n sfx =>
    simp only [step, hashedUnique]
    cases hl : lookupName s hsh with
    | some nm => exact ⟨⟨h1, h2, h3⟩, fun x hx => hx, fun e he => he⟩
    | none =>
      obtain ⟨hfresh, hk, hn⟩ := unique_spec s n sfx
      simp only
      refine ⟨⟨?_, ?_, ?_⟩, fun x hx => (hk x).mpr (Or.inl hx), ?_⟩
      · intro e he
        rcases List.mem_cons.mp he with rfl | he
        · exact (hk _).mpr (Or.inr rfl)
        · rw [hn] at he; exact (hk _).mpr (Or.inl (h1 e he))
      · rw [hn]
        simp only [List.map_cons, List.nodup_cons]
        refine ⟨?_, h2⟩
        intro hm
        obtain ⟨e, he, heq⟩ := List.mem_map.mp hm
        exact hfresh (heq ▸ h1 e he)
      · rw [hn]
        simp only [List.map_cons, List.nodup_cons]
        exact ⟨lookupName_none hl, h3⟩
      · intro e he; rw [hn]; exact List.mem_cons_of_mem _ he

theorem runOps_inv (ops : List Op) (s : Scope) (hi : Inv s) :
    Inv (runOps s ops).1 ∧ (∀ x ∈ s.counts.keys, x ∈ (runOps s ops).1.counts.keys) ∧
    (∀ e ∈ s.names, e ∈ (runOps s ops).1.names) := by
  induction ops generalizing s with
  | nil => exact ⟨hi, fun x hx => hx, fun e he => he⟩
  | cons op ops ih =>
    obtain ⟨i1, k1, n1⟩ := step_inv s op hi
    obtain ⟨i2, k2, n2⟩ := ih _ i1
    exact ⟨i2, fun x hx => k2 x (k1 x hx), fun e he => n2 e (n1 e he)⟩

/-- **Same hash, same name — for ever.** Once a hash has a name, every later `HashedUnique`
    call with that hash returns it, whatever happened in between. -/
theorem hashed_stable (s : Scope) (hi : Inv s) (h n : String) (hl : lookupName s h = some n)
    (ops : List Op) (name : String) (sfx : Option String) :
    (hashedUnique (runOps s ops).1 h name sfx).2 = n := by
  obtain ⟨⟨_, _, j3⟩, _, nn⟩ := runOps_inv ops s hi
  have hm := nn _ (mem_of_lookupName hl)
  unfold hashedUnique
  cases hl2 : lookupName (runOps s ops).1 h with
  | none => exact absurd (List.mem_map.mpr ⟨(h, n), hm, rfl⟩) (lookupName_none hl2)
  | some n' =>
    simp only
    have hm2 := mem_of_lookupName hl2
    -- hashes are distinct keys: both bindings are the same entry
    exact (Prod.mk.inj (nodup_map_inj (·.1) j3 _ hm _ hm2 rfl)).2.symm

/-- **Different hashes, different names.** -/
theorem hashed_injective (s : Scope) (hi : Inv s) (h₁ h₂ n : String)
    (l1 : lookupName s h₁ = some n) (l2 : lookupName s h₂ = some n) : h₁ = h₂ :=
  -- names are distinct values: both bindings are the same entry
  (Prod.mk.inj (nodup_map_inj (·.2) hi.2.1 _ (mem_of_lookupName l1) _ (mem_of_lookupName l2) rfl)).1

/-- **Every history of `Unique` calls returns pairwise distinct names**, none of which was in
    use before — for any names, suffixes and any starting scope. -/
theorem unique_history_distinct (calls : List (String × Option String)) (s : Scope) :
    let out := (runOps s (calls.map fun c => Op.unique c.1 c.2)).2
    out.Nodup ∧ ∀ x ∈ out, x ∉ s.counts.keys := by
  induction calls generalizing s with
  | nil => simp [runOps]
  | cons c cs ih =>
    obtain ⟨hfresh, hk, _⟩ := unique_spec s c.1 c.2
    obtain ⟨hnd, hout⟩ := ih (unique s c.1 c.2).1
    simp only [List.map_cons, runOps, step]
    refine ⟨List.nodup_cons.mpr ⟨?_, hnd⟩, ?_⟩
    · intro hm
      exact hout _ hm ((hk _).mpr (Or.inr rfl))
    · intro x hx
      rcases List.mem_cons.mp hx with rfl | hx
      · exact hfresh
      · intro hxs
        exact hout x hx ((hk x).mpr (Or.inl hxs))

/-! ### Non-vacuity -/
example : (runOps {} [.unique "Foo" none, .unique "Foo" (some "Payload"), .unique "Foo" (some "Payload"),
    .unique "Foo" none, .hashed "h1" "Foo" none, .hashed "h1" "Bar" none]).2
    = ["Foo", "FooPayload", "FooPayload2", "Foo2", "Foo3", "Foo3"] := by decide +kernel

end GoaVerif.Props.C01
