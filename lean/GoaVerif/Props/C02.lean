import GoaVerif.Model.Transport
import Std.Data.String.ToInt
/-!
# C02 / C03 — transport of values: property theorems (proved part)
The end-to-end statement "decode (encode p) = p for every design and payload" is decided by
execution of the generated code (tie T5, vlib/c02.py). Proved here: the string transport of
integers and booleans used for path/query/header/cookie values is lossless on the whole range of
each type, refuses out-of-range text, and the location partition is exact.
-/
namespace GoaVerif.Props.C02
open GoaVerif.Transport

theorem format_int {p : Prim} (hp : p ≠ .bool) (n : Int) : format p n = n.repr := by
  unfold format; split
  · exact absurd rfl hp
  · rfl

theorem parse_int {p : Prim} (hp : p ≠ .bool) (s : String) : parse p s = s.toInt?.filter (inRange p) := by
  unfold parse; split
  · exact absurd rfl hp
  · cases s.toInt? <;> rfl

/-- **Integers survive the string transport**: for every integer kind and every value in its
    range, the server parses what the client formatted back to the same value. -/
theorem int_roundtrip (p : Prim) (hp : p ≠ .bool) (n : Int) (hr : inRange p n = true) :
    parse p (format p n) = some n := by
  rw [format_int hp, parse_int hp, Int.toInt?_repr, Option.filter_some, if_pos hr]

/-- **Booleans survive the string transport.** -/
theorem bool_roundtrip (b : Bool) :
    parse .bool (format .bool (if b then 1 else 0)) = some (if b then 1 else 0) := by
  cases b <;> decide +kernel

/-- The server never accepts a number outside the range of the attribute's type (it answers
    `invalid_field_type` instead of wrapping around). -/
theorem parse_in_range (p : Prim) (s : String) (n : Int) (h : parse p s = some n) : inRange p n = true := by
  by_cases hp : p = .bool
  · subst hp
    simp only [parse, parseBool] at h
    split at h
    · cases h; rfl
    · split at h
      · cases h; rfl
      · cases h
  · rw [parse_int hp] at h
    exact (Option.filter_eq_some_iff.mp h).2

/-- distinct values have distinct wire forms (no two payloads collapse onto one request) -/
theorem format_injective (p : Prim) (hp : p ≠ .bool) (a b : Int) (h : format p a = format p b) : a = b :=
  Int.repr_injective (by rwa [format_int hp, format_int hp] at h)

/-- the first mapping that names `a` decides: the body is left only when none does -/
theorem locate_eq_body (m : Mapping) (a : String) :
    locate m a = .body ↔ a ∉ m.path ∧ a ∉ m.query ∧ a ∉ m.header ∧ a ∉ m.cookie := by
  unfold locate
  by_cases h1 : a ∈ m.path; · simp [h1]
  by_cases h2 : a ∈ m.query; · simp [h1, h2]
  by_cases h3 : a ∈ m.header; · simp [h1, h2, h3]
  by_cases h4 : a ∈ m.cookie <;> simp [h1, h2, h3, h4]

/-- **Every attribute travels in exactly one location**, and the body carries exactly the
    attributes no mapping names. -/
theorem partition_exact (m : Mapping) (attrs : List String) (a : String) (ha : a ∈ attrs) :
    (a ∈ bodyAttrs m attrs ↔ a ∉ m.path ∧ a ∉ m.query ∧ a ∉ m.header ∧ a ∉ m.cookie) := by
  rw [bodyAttrs, List.mem_filter, beq_iff_eq, locate_eq_body]
  exact and_iff_right ha

/-! ### arrays in the query string and in headers -/

/-- **Request direction**: the elements of an array in the query string or in a header reach the
    server as sent, whatever they are (commas, spaces, empty strings, no element at all). -/
theorem request_elems_delivered (l : Loc) (xs : List String) : deliverElems .request l xs = xs := by
  cases l <;> rfl

/-- **Response direction, headers**: an array arrives as sent **iff it has exactly one element** —
    the generated server joins the elements into one header value and the generated client reads one
    element per value. This is the recorded finding `response/header/array-written-as-one-joined-value`
    stated exactly: the check compares what the client saw with `deliverElems`, so any OTHER
    behaviour is still reported. -/
theorem response_header_elems_delivered_iff (xs : List String) :
    deliverElems .response .header xs = xs ↔ ∃ x, xs = [x] := by
  unfold deliverElems decodeElems encodeElems
  constructor
  · intro h
    match xs, h with
    | [x], _ => exact ⟨x, rfl⟩
    | [], h => simp at h
    | _ :: _ :: _, h => simp at h
  · rintro ⟨x, rfl⟩
    rfl

/-- what the client sees instead: always exactly one element -/
theorem response_header_elems_one (xs : List String) : (deliverElems .response .header xs).length = 1 := rfl

/-! ### Non-vacuity -/
example : deliverElems .response .header ["a", "b"] = ["a, b"] := by decide +kernel
example : deliverElems .response .header [] = [""] := by decide +kernel
example : deliverElems .request .header ["a", "b"] = ["a", "b"] := by decide +kernel
example : parse .int32 (format .int32 (-2147483648)) = some (-2147483648) :=
  int_roundtrip .int32 (by decide) _ (by decide)
example : parse .uint64 (format .uint64 18446744073709551615) = some 18446744073709551615 :=
  int_roundtrip .uint64 (by decide) _ (by decide)
/-- one past the range is refused -/
example : parse .int32 (format .int32 2147483648) = none := by
  have h : inRange .int32 2147483648 = false := by decide
  simp [parse, format, Int.toInt?_repr, h]
example : locate ⟨["id"], ["q"], [], []⟩ "name" = .body ∧ locate ⟨["id"], ["q"], [], []⟩ "q" = .query := by decide +kernel

end GoaVerif.Props.C02
