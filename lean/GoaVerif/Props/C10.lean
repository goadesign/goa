import GoaVerif.Model.Proto
import GoaVerif.Model.GrpcHandler
/-!
# C10 — gRPC definitions are well formed (request-message field numbers)

* `tagsOK_sound`: what `validateRPCTags` accepts has a number on every field and no number twice.
* `accepted_plain_numbers`: an accepted endpoint without `Message`/`Metadata` has a request
  message in which every field carries the number chosen in the design and no number is used twice.
* the gaps, each a kernel-checked witness and a known finding replayed on the generated
  .proto: with an explicit `Message` only the first listed attribute is checked; with `Metadata`
  and no `Message` nothing is; a streamed request is never checked; no check looks at the numeric range.
The emitted .proto of every generated design is parsed and judged directly (vlib/c10.py); the
conversions between messages and service types are executed on stand-in structs.
-/
namespace GoaVerif.Props.C10
open GoaVerif.Proto

theorem tagsOK_sound : ∀ (fs : List Attr) (seen : List Nat), tagsOK seen fs = true →
    (∀ a ∈ fs, a.union = false → ∃ t, a.tag = some t ∧ t ∉ seen) ∧
    ((fs.filter fun a => !a.union).filterMap (·.tag)).Nodup := by
  intro fs seen h
  fun_induction tagsOK seen fs with
  | case1 => simp
  | case2 seen a rest hu ih => simpa [hu] using ih h
  | case3 | case4 => cases h
  | case5 seen a rest hu t ht hs ih =>
    obtain ⟨h1, h2⟩ := ih h
    simp only [List.mem_cons, not_or] at h1
    refine ⟨?_, ?_⟩
    · intro b hb hbu
      rcases List.mem_cons.mp hb with rfl | hb
      · exact ⟨t, ht, by simpa using hs⟩
      · obtain ⟨t', ht', -, hn⟩ := h1 b hb hbu
        exact ⟨t', ht', hn⟩
    · simp only [List.filter_cons, hu, Bool.not_false, if_true, List.filterMap_cons, ht]
      refine List.nodup_cons.mpr ⟨fun hm => ?_, h2⟩
      obtain ⟨b, hb, hbt⟩ := List.mem_filterMap.mp hm
      obtain ⟨t', ht', hn, -⟩ := h1 b (List.mem_filter.mp hb).1 (by simpa using (List.mem_filter.mp hb).2)
      exact hn (Option.some.inj (ht'.symm.trans hbt))

/-- **Accepted ⇒ every field has its number and no number is used twice**, for endpoints that
    use neither `Message` nor `Metadata` (the case the checks cover). -/
theorem accepted_plain_numbers (e : Endpoint) (hm : e.message = none) (hd : e.metadata = []) (hs : e.streaming = false)
    (h : accepted e = true) :
    (∀ a ∈ requestFields e, a.union = false → ∃ t, a.tag = some t) ∧
    (((requestFields e).filter fun a => !a.union).filterMap (·.tag)).Nodup := by
  have hreq : requestFields e = e.payload.filter fun a => !a.security := by
    simp [requestFields, hm, hd]
  have hacc : tagsOK [] (e.payload.filter fun a => !a.security) = true := by
    simpa [accepted, hm, hd, hs] using h
  rw [hreq]
  obtain ⟨h1, h2⟩ := tagsOK_sound _ [] hacc
  exact ⟨fun a ha hu => let ⟨t, ht, _⟩ := h1 a ha hu; ⟨t, ht⟩, h2⟩

/-- the check itself does not look at the range of a number -/
theorem range_unchecked :
    let e : Endpoint := ⟨[⟨"a", some 0, false, false⟩, ⟨"b", some 19000, false, false⟩], none, [], false⟩
    accepted e = true ∧ wfFields (requestFields e) = false := by decide +kernel

/-- with an explicit Message only the first listed attribute is checked -/
theorem explicit_message_gap :
    let e : Endpoint := ⟨[⟨"a", some 1, false, false⟩, ⟨"b", some 2, false, false⟩, ⟨"c", some 2, false, false⟩], some ["a", "b", "c"], [], false⟩
    accepted e = true ∧ wfFields (requestFields e) = false := by decide +kernel

/-- with Metadata and no Message the numbers are not checked at all -/
theorem metadata_gap :
    let e : Endpoint := ⟨[⟨"k", some 1, false, false⟩, ⟨"b", some 2, false, false⟩, ⟨"c", some 2, false, false⟩], none, ["k"], false⟩
    accepted e = true ∧ wfFields (requestFields e) = false := by decide +kernel

/-- a streamed request message is not checked either -/
theorem streaming_gap :
    let e : Endpoint := ⟨[⟨"b", some 2, false, false⟩, ⟨"c", some 2, false, false⟩], none, [], true⟩
    accepted e = true ∧ wfFields (requestFields e) = false := by decide +kernel

/-! ### The runtime around the generated code: unary handler and invoker
`Model/GrpcHandler.lean` (status function translated from /repo); tied by `rtgrpc` ↔ `drv_grpc` over a
real grpc transport. -/
section handler
open GoaVerif.GrpcHandler GoaVerif.Generated.TrGrpcerr

theorem grpcErrorCode_ne_ok (e : ServiceError) : grpcErrorCode e ≠ 0 := by
  unfold grpcErrorCode
  cases e.Temporary <;> cases e.Timeout <;> cases e.Fault <;> decide

theorem codeOf_ne_ok {p : Int} (hp : p ≠ 0) {st : Step} (h : st ≠ .ok) : codeOf p st ≠ 0 := by
  cases st with
  | ok => exact absurd rfl h
  | plain => exact hp
  | svc e => exact grpcErrorCode_ne_ok e

/-- **Results with headers and trailers**: when decoder, endpoint and encoder succeed the caller gets the
    message, exactly the header metadata and exactly the trailer metadata the encoder produced —
    whatever the other one holds (a non-empty header does not cost the trailers, and conversely). -/
theorem unary_success_delivers_metadata (s : Spec) (hd : s.dec = .ok) (he : s.ep = .ok) (hc : s.enc = .ok) :
    unary s = ⟨0, true, true, s.hdr, s.trlr⟩ := by
  unfold unary; rw [hd, he, hc]

/-- A failure anywhere delivers no message and no metadata, with a status that is not OK. -/
theorem unary_failure_delivers_nothing (s : Spec) (h : ¬ (s.dec = .ok ∧ s.ep = .ok ∧ s.enc = .ok)) :
    (unary s).result = false ∧ (unary s).hdr = [] ∧ (unary s).trlr = [] ∧ (unary s).code ≠ 0 := by
  unfold unary
  repeat' split
  · simp_all
  all_goals exact ⟨rfl, rfl, rfl, codeOf_ne_ok (by decide) ‹_›⟩

/-- **Invalid requests are refused before user code**: the endpoint runs iff the request decoder
    (which validates the message) succeeded. -/
theorem user_code_runs_iff_decoded (s : Spec) : (unary s).ran = true ↔ s.dec = .ok := by
  unfold unary
  repeat' split
  all_goals simp_all [failed]

/-- a request the decoder refuses with an ordinary error is answered InvalidArgument -/
theorem undecodable_request_is_invalid_argument (s : Spec) (h : s.dec = .plain) : (unary s).code = 3 := by
  unfold unary; rw [h]; rfl

/-- the same gate in front of streaming endpoints: the endpoint gets the stream iff the first message and the metadata decoded,
    and the status of a refused request is the one the unary handler gives -/
theorem stream_user_code_runs_iff_decoded (d e : Step) : (stream d e).2 = true ↔ d = .ok := by
  cases d <;> simp [stream]

theorem stream_refusal_like_unary (d e : Step) (h : d ≠ .ok) (s : Spec) (hs : s.dec = d) : (stream d e).1 = (unary s).code := by
  obtain ⟨sd, se, sc, hh, tt⟩ := s
  subst hs
  cases sd <;> simp_all [stream, unary, failed]

example : unary ⟨.ok, .ok, .ok, [("x-a", ["h"])], [("x-b", ["t1", "t2"])]⟩ = ⟨0, true, true, [("x-a", ["h"])], [("x-b", ["t1", "t2"])]⟩ := rfl
example : (unary ⟨.svc { Temporary := true }, .ok, .ok, [], []⟩).code = 14 := by decide +kernel
end handler

/-! ### Non-vacuity -/
example : accepted ⟨[⟨"a", some 1, false, false⟩, ⟨"u", none, true, false⟩, ⟨"b", some 3, false, false⟩, ⟨"tok", none, false, true⟩], none, [], false⟩ = true := by decide +kernel
example : accepted ⟨[⟨"a", some 1, false, false⟩, ⟨"b", some 1, false, false⟩], none, [], false⟩ = false := by decide +kernel
example : accepted ⟨[⟨"a", none, false, false⟩], none, [], false⟩ = false := by decide +kernel

end GoaVerif.Props.C10
