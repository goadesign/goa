import GoaVerif.Model.VMerge
import GoaVerif.Model.Validation
import GoaVerif.Generated.FactsValCode
import GoaVerif.Lemmas.ValCode
import GoaVerif.Lemmas.ValFuel
/-!
# C04 — validations gate user code: property theorems over the specification
`GoaVerif.Model.Validation` is the *specification* of the design's constraints, tied to the
generated servers and clients by execution (tie T5: `vlib/c04.py` sends boundary values through
generated code and compares "method invoked / error name" with `handle`). The last section ties the
single-keyword checks of the code generator to the specification by proof: the checks
`codegen.AttributeValidationCode` emits are extracted from /repo in every run (tie T2,
`Generated/FactsValCode.lean`: the generator is run on one attribute per kind x keyword x pointer cell and
its output parsed) and proved to fire exactly when the specification says the rule is broken, for every
value and bound. The recursive ASSEMBLY of the checks (objects, arrays, maps, nil guards, required
checks: codegen/validation.go) is modelled by `ValCode.compile`, tied to the real generator by tie T3
(`rtvalcode` runs `codegen.ValidationCode` on random attribute trees and prints the parsed Go in the form
`drv_valid compile` prints the model's code) and proved below to gate exactly like the specification
(`emitted_code_gates`). User types (`Validate<Type>` calls) stay tied by execution only.
-/
namespace GoaVerif.Props.C04
open GoaVerif.Validation

/-- The method is invoked iff no rule is broken. -/
theorem called_iff_valid (fuel : Nat) (a : Att) (v : Val) :
    (handle fuel a v matches .called) ↔ violations fuel a v = [] := by
  unfold handle
  cases violations fuel a v <;> simp

/-- A rejection names a rule the value really breaks. -/
theorem rejected_names_broken_rule (fuel : Nat) (a : Att) (v : Val) (x : Viol) (all : List Viol)
    (h : handle fuel a v = .rejected x all) : x ∈ violations fuel a v ∧ all = violations fuel a v := by
  unfold handle at h
  cases hv : violations fuel a v with
  | nil => simp [hv] at h
  | cons y ys => simp [hv] at h; obtain ⟨rfl, rfl⟩ := h; simp

/-! ### boundaries: inclusive vs exclusive -/

theorem minimum_is_inclusive (m : Rat') (hd : 0 < m.den) :
    rangeViol { min := some m } m = [] := by
  simp [rangeViol, Rat'.lt]

theorem maximum_is_inclusive (m : Rat') : rangeViol { max := some m } m = [] := by
  simp [rangeViol, Rat'.lt]

theorem exclusive_minimum_excludes_bound (m : Rat') : rangeViol { exMin := some m } m = [.invalidRange] := by
  simp [rangeViol, Rat'.le]

theorem exclusive_maximum_excludes_bound (m : Rat') : rangeViol { exMax := some m } m = [.invalidRange] := by
  simp [rangeViol, Rat'.le]

theorem below_minimum_rejected (m x : Rat') (h : x.lt m = true) :
    Viol.invalidRange ∈ rangeViol { min := some m } x := by
  simp [rangeViol, h]

theorem above_maximum_rejected (m x : Rat') (h : m.lt x = true) :
    Viol.invalidRange ∈ rangeViol { max := some m } x := by
  simp [rangeViol, h]

/-- lengths: exactly `minLen ≤ n ≤ maxLen` passes -/
theorem length_ok_iff (r : Rules) (n : Nat) :
    lengthViol r n = [] ↔ (∀ m, r.minLen = some m → m ≤ n) ∧ (∀ m, r.maxLen = some m → n ≤ m) := by
  unfold lengthViol
  cases r.minLen <;> cases r.maxLen <;> simp <;> omega

/-- string lengths count characters (runes), not bytes -/
example : violations 3 (.prim .string { maxLen := some 2 }) (.str "éé" true true) = [] := by decide +kernel
example : violations 3 (.prim .string { maxLen := some 2 }) (.str "abc" true true) = [.invalidLength] := by decide +kernel

/-! ### the rules apply recursively -/

/-- a broken rule inside an array element is reported for the array -/
theorem array_elements_validated (fuel : Nat) (r : Rules) (elem : Att) (vs : List Val) (v : Val) (x : Viol)
    (hv : v ∈ vs) (hx : x ∈ violations fuel elem v) :
    x ∈ violations (fuel + 1) (.arr r elem) (.arr vs) := by
  simp only [violations, List.mem_append, List.mem_flatMap]
  exact Or.inr ⟨v, hv, hx⟩

/-- … inside a map key or a map value … -/
theorem map_keys_and_values_validated (fuel : Nat) (r : Rules) (k e : Att) (kvs : List (Val × Val))
    (kv : Val × Val) (x : Viol) (hkv : kv ∈ kvs)
    (hx : x ∈ violations fuel k kv.1 ∨ x ∈ violations fuel e kv.2) :
    x ∈ violations (fuel + 1) (.map r k e) (.map kvs) := by
  simp only [violations, List.mem_append, List.mem_flatMap]
  exact Or.inr ⟨kv, hkv, hx⟩

/-- … and inside a field of a nested object. -/
theorem object_fields_validated (fuel : Nat) (fields : List (String × Bool × Att)) (vals : List (String × Val))
    (name : String) (req : Bool) (att : Att) (v : Val) (x : Viol)
    (hf : (name, req, att) ∈ fields) (hv : vals.find? (fun p => p.1 == name) = some (name, v))
    (hne : v ≠ .absent) (hx : x ∈ violations fuel att v) :
    x ∈ violations (fuel + 1) (.obj fields) (.obj vals) := by
  simp only [violations, List.mem_flatMap]
  refine ⟨(name, req, att), hf, ?_⟩
  simp only [hv]
  cases v with
  | absent => exact absurd rfl hne
  | _ => exact hx

/-- a required attribute that is absent is a `missing_field`, an optional one is not -/
theorem required_absent_is_missing (fuel : Nat) (name : String) (att : Att) :
    violations (fuel + 1) (.obj [(name, true, att)]) (.obj []) = [.missingField] ∧
    violations (fuel + 1) (.obj [(name, false, att)]) (.obj []) = [] := by
  simp [violations]

/-- a value of the wrong JSON type is an `invalid_field_type`, never silently accepted -/
theorem wrong_type_rejected (fuel : Nat) (r : Rules) (s : String) (f p : Bool) :
    violations (fuel + 1) (.prim (.number true none none) r) (.str s f p) = [.invalidFieldType] := by
  simp [violations]

/-! ### Non-vacuity: a nested design with a violation three levels down -/
def exAtt : Att :=
  .obj [("items", true, .arr { minLen := some 1 } (.obj [("qty", true, .prim (.number true (some 0) none) { min := some ⟨1, 1⟩, exMax := some ⟨10, 1⟩ })]))]
example : handle 8 exAtt (.obj [("items", .arr [.obj [("qty", .num ⟨10, 1⟩)]])]) matches .rejected .invalidRange _ := by decide +kernel
example : handle 8 exAtt (.obj [("items", .arr [.obj [("qty", .num ⟨9, 1⟩)]])]) matches .called := by decide +kernel
example : handle 8 exAtt (.obj [("items", .arr [])]) matches .rejected .invalidLength _ := by decide +kernel
example : handle 8 exAtt (.obj []) matches .rejected .missingField _ := by decide +kernel

/-! ### the checks the generator emits (regenerated table) meet the specification -/

section emitted
open GoaVerif.Generated.FactsValCode

/-- meaning of an emitted comparison -/
def fires (op : String) (x b : Int) : Bool :=
  if op = "<" then decide (x < b) else if op = "<=" then decide (x ≤ b)
  else if op = ">" then decide (x > b) else if op = ">=" then decide (x ≥ b) else false

def opOf (kw : String) : String :=
  if kw = "min" ∨ kw = "minlen" then "<" else if kw = "max" ∨ kw = "maxlen" then ">"
  else if kw = "exmin" then "<=" else ">="

/-- shape of every emitted range check: it compares the value itself with the operator of its keyword,
    reports an InvalidRangeError, and is wrapped in a nil guard exactly when the attribute is a pointer -/
theorem range_checks_shape : ∀ c ∈ checks, c.kw ∈ ["min", "max", "exmin", "exmax"] →
    c.lhs = "val" ∧ c.op = opOf c.kw ∧ c.errFn = "InvalidRangeError" ∧ c.guard = c.pointer := by
  decide +kernel

/-- shape of every emitted length check: strings are measured in runes, bytes / arrays / maps with `len` -/
theorem length_checks_shape : ∀ c ∈ checks, c.kw ∈ ["minlen", "maxlen"] →
    c.lhs = (if c.kind = "string" then "runes" else "len") ∧ c.op = opOf c.kw ∧ c.errFn = "InvalidLengthError" := by
  decide +kernel

/-- every (kind, keyword, pointer) cell of the table is present: 3 numeric kinds x 4 keywords and
    4 sized kinds x 2 keywords, each with and without pointer -/
theorem checks_table_complete : checks.length = 40 ∧
    (∀ k ∈ ["int", "float", "uint"], ∀ kw ∈ ["min", "max", "exmin", "exmax"], ∀ p ∈ [true, false],
      ∃ c ∈ checks, c.kind = k ∧ c.kw = kw ∧ c.pointer = p) ∧
    (∀ k ∈ ["string", "bytes", "array", "map"], ∀ kw ∈ ["minlen", "maxlen"], ∀ p ∈ [true, false],
      ∃ c ∈ checks, c.kind = k ∧ c.kw = kw ∧ c.pointer = p) := by
  decide +kernel

def rulesOf (kw : String) (b : Int) : Rules :=
  if kw = "min" then { min := some ⟨b, 1⟩ } else if kw = "max" then { max := some ⟨b, 1⟩ }
  else if kw = "exmin" then { exMin := some ⟨b, 1⟩ } else { exMax := some ⟨b, 1⟩ }

/-- **The emitted range checks are correct.** For every entry of the regenerated table with a range
    keyword, every integer value and every bound: the emitted comparison fires iff the specification
    reports a broken rule. (`minimum_is_inclusive` etc. above say what the specification means.) -/
theorem emitted_range_check_correct (c : Check) (hc : c ∈ checks)
    (hk : c.kw ∈ ["min", "max", "exmin", "exmax"]) (x b : Int) :
    fires c.op x b = true ↔ rangeViol (rulesOf c.kw b) ⟨x, 1⟩ ≠ [] := by
  have hs := (range_checks_shape c hc hk).2.1
  rw [hs]
  simp only [List.mem_cons, List.not_mem_nil, or_false] at hk
  rcases hk with h | h | h | h <;> rw [h] <;>
    simp [fires, opOf, rulesOf, rangeViol, Rat'.lt, Rat'.le] <;> omega

def lenRules (kw : String) (m : Nat) : Rules :=
  if kw = "minlen" then { minLen := some m } else { maxLen := some m }

/-- **The emitted length checks are correct**: they fire iff the measured length breaks the rule. -/
theorem emitted_length_check_correct (c : Check) (hc : c ∈ checks) (hk : c.kw ∈ ["minlen", "maxlen"]) (n m : Nat) :
    fires c.op n m = true ↔ lengthViol (lenRules c.kw m) n ≠ [] := by
  have hs := (length_checks_shape c hc hk).2.1
  rw [hs]
  simp only [List.mem_cons, List.not_mem_nil, or_false] at hk
  rcases hk with h | h <;> rw [h] <;> simp [fires, opOf, lenRules, lengthViol] <;> omega

/-- **Known finding (witness in the regenerated table).** The length check of an array, map or byte
    string is NOT wrapped in a nil guard even when the attribute may be absent: `len(nil) < min` holds, so
    an absent optional collection with MinLength >= 1 is reported invalid
    (`request/absent-optional-collection-with-min-length-rejected`). Strings are guarded. -/
theorem optional_collection_check_unguarded :
    (∀ c ∈ checks, c.kw = "minlen" → c.pointer = true → (c.guard = true ↔ c.kind = "string")) := by
  decide +kernel

end emitted

/-! ### the assembly of the checks (`Model/ValCode.lean`, tie T3 `rtvalcode` ↔ `drv_valid compile`) -/
section Assembly
open GoaVerif.ValCode

/-- **Every broken rule is reported.** For every attribute tree (objects only where the generator
    works on pointer fields: `okCtx`), every well-typed value and every rule of the specification the
    value breaks, the code emitted for an HTTP body type reports that rule — provided no attribute
    carries both exclusive bounds (`noBothEx`, known finding). -/
theorem emitted_code_complete (f : Nat) (a : Att) (v : Val) (y : Viol)
    (hok : okCtx f true a = true) (ht : typed f a v = true) (hex : noBothEx f a = true)
    (hy : y ∈ violations f a v) : y ∈ runL (compileBody f a) v :=
  compile_complete f a v ht true true hok hex hy

/-- **A valid value passes.** The emitted code is silent on a well-typed value that breaks no rule —
    provided no absent array/map field has a positive minimum length (`collOK`, known finding). -/
theorem emitted_code_sound (f : Nat) (a : Att) (v : Val)
    (hok : okCtx f true a = true) (ht : typed f a v = true) (hc : collOK f a v = true)
    (hv : violations f a v = []) : runL (compileBody f a) v = [] :=
  List.eq_nil_of_subset_nil (hv ▸ compile_real f a v ht true true hok hc)

/-- **The emitted code gates exactly like the specification**: the validation code of a body type lets
    a (decoded, hence well-typed) value through iff the value satisfies the design. -/
theorem emitted_code_gates (f : Nat) (a : Att) (v : Val)
    (hok : okCtx f true a = true) (ht : typed f a v = true) (hex : noBothEx f a = true)
    (hc : collOK f a v = true) :
    runL (compileBody f a) v = [] ↔ (handle f a v matches .called) := by
  rw [called_iff_valid]
  exact compile_gates ht true true hok hex hc

/-- The same for the code emitted for a request parameter or header (`AttributeValidationCode` with
    `Pointer = false`: a primitive, or an array / map of primitives; `req` = required or defaulted, so
    the variable is a value and the checks are unguarded, otherwise every check carries its own nil
    guard): on a present well-typed value it is silent iff the specification reports no violation. -/
theorem emitted_param_code_gates (f : Nat) (req : Bool) (a : Att) (v : Val)
    (hok : okCtx f false a = true) (ht : typed f a v = true) (hex : noBothEx f a = true)
    (hc : collOK f a v = true) :
    runL (compile f false req a) v = [] ↔ violations f a v = [] :=
  compile_gates ht false req hok hex hc

/-- an absent optional parameter is never rejected by its own checks: they are all nil-guarded -/
theorem absent_optional_param_passes (f : Nat) (k : Kind) (r : Rules) (hk : k ≠ .bytes) :
    runL (compile (f + 1) false false (.prim k r)) .absent = [] :=
  primChecks_absent r hk

/-- **Skipping `Validate<Type>` is sound exactly for types without validations.** The generator calls the
    validation function of a user type only if `hasValidations` finds a validation on some attribute
    reachable from it. For a type without any (`noRules`) the generator would emit no code at all, and no
    well-typed value violates it — so nothing is lost by not calling. -/
theorem pruned_type_needs_no_call (f : Nat) (p req : Bool) (a : Att) (v : Val)
    (hn : noRules f a = true) (ht : typed f a v = true) :
    compile f p req a = [] ∧ violations f a v = [] :=
  ⟨no_rules_no_code f p req a hn, no_rules_no_violations f a v ht hn⟩

/-- … and only for those: a type whose single validation is a required primitive attribute does have
    something to validate (the defect repaired by b4fbe22: for map values `hasValidations` was asked with
    `Pointer = false`, skipped required primitives, and the call was not emitted). -/
def requiredOnly : Att := .obj [("g0", true, .prim (.number false none none) {})]
theorem required_only_type_must_be_validated :
    noRules 3 requiredOnly = false ∧ violations 3 requiredOnly (.obj []) = [.missingField] ∧
    runL (compileBody 3 requiredOnly) (.obj []) = [.missingField] := by decide +kernel

/-- **The fuel of the recursive definitions is immaterial.** `violations` and `compile` take a fuel argument
    only because their types are nested; with any fuel above the depth of the value (of the attribute) the verdict
    (the code) is the same — the theorems above therefore speak about THE specification and THE emitted code,
    and the drivers may pick any sufficient fuel. -/
theorem fuel_is_immaterial (f g : Nat) (a : Att) (v : Val)
    (hf : vdepth v < f) (hg : vdepth v < g) (haf : adepth a < f) (hag : adepth a < g) :
    violations f a v = violations g a v ∧ compileBody f a = compileBody g a :=
  ⟨violations_fuel_indep f g a v hf hg, compile_fuel_indep f g true true a haf hag⟩

/-- the two hypotheses are needed — the emitted code itself is wrong there (both are known findings,
    reproduced on generated servers by `vlib/c04.py`): -/
def bothEx : Att := .obj [("n", true, .prim (.number true none none) { exMin := some ⟨0, 1⟩, exMax := some ⟨10, 1⟩ })]
theorem both_exclusive_bounds_second_unchecked :
    violations 3 bothEx (.obj [("n", .num ⟨11, 1⟩)]) = [.invalidRange] ∧
    runL (compileBody 3 bothEx) (.obj [("n", .num ⟨11, 1⟩)]) = [] := by decide +kernel

def optList : Att := .obj [("tags", false, .arr { minLen := some 1 } (.prim .string {}))]
theorem absent_optional_collection_rejected :
    violations 3 optList (.obj []) = [] ∧ runL (compileBody 3 optList) (.obj []) = [.invalidLength] := by decide +kernel

/-- non-vacuity: a nested attribute and values meeting every hypothesis, one valid and one not -/
def asmAtt : Att :=
  .obj [("id", true, .prim (.number true none none) { min := some ⟨1, 1⟩ }),
        ("tags", false, .arr { maxLen := some 2 } (.prim .string { minLen := some 2, pattern := true })),
        ("dims", true, .map {} (.prim .string { enumStrs := ["w", "h"], hasEnum := true }) (.prim (.number false none none) { exMin := some ⟨0, 1⟩ })),
        ("owner", false, .obj [("name", true, .prim .string { maxLen := some 3 }), ("blob", false, .prim .bytes { minLen := some 1 })])]
def asmGood : Val := .obj [("id", .num ⟨3, 1⟩), ("dims", .map [(.str "w" true true, .num ⟨1, 2⟩)]), ("owner", .obj [("name", .str "ab" true true)])]
def asmBad : Val := .obj [("id", .num ⟨0, 1⟩), ("tags", .arr [.str "a" true false]), ("dims", .map [(.str "x" true true, .num ⟨0, 1⟩)]), ("owner", .obj [])]
example : okCtx 5 true asmAtt = true ∧ noBothEx 5 asmAtt = true ∧ typed 5 asmAtt asmGood = true ∧ collOK 5 asmAtt asmGood = true ∧
    typed 5 asmAtt asmBad = true ∧ collOK 5 asmAtt asmBad = true := by decide +kernel
example : runL (compileBody 5 asmAtt) asmGood = [] ∧ violations 5 asmAtt asmGood = [] := by decide +kernel
example : runL (compileBody 5 asmAtt) asmBad =
    [.invalidRange, .invalidPattern, .invalidLength, .invalidEnumValue, .invalidRange, .missingField] := by decide +kernel

end Assembly

/-! ### Combining the validations of two levels (`ValidationExpr.Merge`)
`Model/VMerge.lean`, tied statement for statement by `rtvalcode vmerge` ↔ `drv_valid vmerge`. Used for an alias type and the attribute of
that type, and (since 67e3a51) for a design attribute and its HTTP mapping. -/
section merge
open GoaVerif.VMerge

/-- keywords that are text (format, pattern, enum): the receiver's own wins, a missing one is taken from the other level — so a format
    from one level and a pattern from the other BOTH hold -/
theorem merge_text_keywords (v o : V) :
    (merge v o).format = (if v.format == "" then o.format else v.format) ∧
    (merge v o).pattern = (if v.pattern == "" then o.pattern else v.pattern) ∧
    (merge v o).values = (if v.values.isNone then o.values else v.values) := ⟨rfl, rfl, rfl⟩

theorem merge_keeps_format_and_pattern (v o : V) (hf : v.format ≠ "") (hp : v.pattern = "") (ho : o.pattern ≠ "") :
    (merge v o).format = v.format ∧ (merge v o).pattern = o.pattern := by
  simp [merge, hf, hp]

/-- a bound given at one level only is kept -/
theorem merge_bound_one_level (v o : V) (h : v.min = none) : (merge v o).min = o.min := by
  simp [merge, pickSmaller, h]

theorem pickSmaller_some (a b : Int) : pickSmaller (some a) (some b) = some (min a b) := by
  simp only [pickSmaller]; split <;> congr 1 <;> omega

theorem pickLarger_some (a b : Int) : pickLarger (some a) (some b) = some (max a b) := by
  simp only [pickLarger]; split <;> congr 1 <;> omega

/-- lower bounds and minimum lengths given at both levels: the SMALLER one; upper bounds and maximum lengths: the LARGER one
    (the combined rule is the looser of the two, never stricter than the receiver's own) -/
theorem merge_bounds_both_levels (v o : V) (a b : Int) :
    (v.min = some a → o.min = some b → (merge v o).min = some (min a b)) ∧
    (v.max = some a → o.max = some b → (merge v o).max = some (max a b)) ∧
    (v.minLen = some a → o.minLen = some b → (merge v o).minLen = some (min a b)) ∧
    (v.maxLen = some a → o.maxLen = some b → (merge v o).maxLen = some (max a b)) := by
  refine ⟨fun h1 h2 => ?_, fun h1 h2 => ?_, fun h1 h2 => ?_, fun h1 h2 => ?_⟩
  · show pickSmaller v.min o.min = _; rw [h1, h2, pickSmaller_some]
  · show pickLarger v.max o.max = _; rw [h1, h2, pickLarger_some]
  · show pickSmaller v.minLen o.minLen = _; rw [h1, h2, pickSmaller_some]
  · show pickLarger v.maxLen o.maxLen = _; rw [h1, h2, pickLarger_some]

/-- As written in /repo the EXCLUSIVE maximum is the odd one out: the smaller (stricter) of the two is kept, where `Maximum` keeps the larger. -/
theorem merge_exclusive_maximum_keeps_smaller :
    (merge { exMax := some 5 } { exMax := some 3 }).exMax = some 3 ∧ (merge { max := some 5 } { max := some 3 }).max = some 5 := by decide +kernel

theorem addRequired_mem (h rs : List String) (x : String) : x ∈ addRequired h rs ↔ x ∈ h ∨ x ∈ rs := by
  induction rs generalizing h with
  | nil => simp [addRequired]
  | cons r rs ih =>
    unfold addRequired
    split
    · -- already listed: `x = r` is covered by `x ∈ h`
      rename_i hc
      have hr : r ∈ h := by simpa using hc
      rw [ih, List.mem_cons]
      exact ⟨Or.imp_right .inr, fun hx => hx.elim .inl fun hx => hx.elim (fun e => .inl (e ▸ hr)) .inr⟩
    · rw [ih, List.mem_append, List.mem_singleton, List.mem_cons, or_assoc]

/-- the required names of both levels, each once when the receiver's were -/
theorem merge_required (v o : V) (x : String) : x ∈ (merge v o).required ↔ x ∈ v.required ∨ x ∈ o.required :=
  addRequired_mem v.required o.required x

example : merge { format := "date" } { pattern := "^20", min := some 3 } = { format := "date", pattern := "^20", min := some 3 } := by decide +kernel
end merge

end GoaVerif.Props.C04
