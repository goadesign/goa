import GoaVerif.Lemmas.ErrorMap
/-!
# C05 — declared errors reach the client as the same error; others become faults
Theorems over `Model/ErrorMap.lean`. The default status function is the gotolean translation of
`(*ErrorResponse).StatusCode` (tie T1); the table construction and the two dispatches are tied to
the generated code by execution (tie T5, `vlib/c05.py`: scripted errors through generated
servers and clients against `drv_errmap`).
-/
namespace GoaVerif.Props.C05
open GoaVerif.ErrorMap GoaVerif.Generated

@[simp] theorem lookup_nil (n : String) : lookup n [] = none := rfl

/-- A declared error is written with the status the design assigns to it and carries its name. -/
theorem declared_status (t : List HErr) (n : String) (h : HErr) (s : Option TrStatus.ErrorResponse)
    (hl : lookup n t = some h) :
    (encode t ⟨some n, s⟩).status = h.code ∧ (encode t ⟨some n, s⟩).errHeader = some n ∧
    (encode t ⟨some n, s⟩).defaultBody = none := by
  simp [encode, hl]

/-- The method's own `Response(name, code)` wins over service- and API-level mappings. -/
theorem method_mapping_wins (c : Ctx) (n : String) (h : HErr) (hm : lookup n c.methodHTTP = some h) :
    lookup n (table c) = some h := by
  unfold table
  simp [lookup_append, hm, Option.or]

/-- A method error without its own response uses the service's mapping of that name, else the API's. -/
theorem method_error_inherits (c : Ctx) (n : String) (h : HErr) (hin : n ∈ c.methodErrs)
    (hown : n ∉ c.methodHTTP.map (·.name)) (hinh : (inherited c n).head? = some h) :
    lookup n (table c) = some h := by
  unfold table
  have h1 : lookup n c.methodHTTP = none :=
    lookup_eq_none.mpr fun x hx e => hown (e ▸ List.mem_map_of_mem hx)
  have h2 := walk_lookup c n c.methodErrs (c.methodHTTP.map (·.name)) hin hown
  simp [lookup_append, h1, h2, hinh, Option.or]

/-- the service mapping is preferred to the API mapping -/
theorem service_before_api (c : Ctx) (n : String) (h : HErr) (hs : lookup n c.svcHTTP = some h) :
    (inherited c n).head? = some h := by
  simp [inherited_eq, hs]

theorem api_when_no_service (c : Ctx) (n : String) (hs : lookup n c.svcHTTP = none) :
    (inherited c n).head? = lookup n c.apiHTTP := by
  simp [inherited_eq, hs]

/-- An error that is not a goa error at all becomes an internal server fault. -/
theorem undeclared_plain (t : List HErr) :
    encode t ⟨none, none⟩ = { status := 500, errHeader := none, defaultBody := some { Name := "fault", Fault := true } } := by
  simp [encode, encodeDefault, errorResponse, TrStatus.httpStatusCode, Id.run]
  rfl

/-- A goa service error the design does not declare gets the status its flags imply. -/
theorem undeclared_service (t : List HErr) (n : String) (e : TrStatus.ErrorResponse) (hl : lookup n t = none) :
    encode t ⟨some n, some e⟩ = { status := TrStatus.httpStatusCode e, errHeader := none, defaultBody := some e } := by
  simp [encode, hl, encodeDefault, errorResponse]

theorem default_status_table (e : TrStatus.ErrorResponse) (hn : e.Name ≠ "unsupported_media_type") :
    TrStatus.httpStatusCode e =
      if e.Fault then 500 else if e.Timeout then (if e.Temporary then 504 else 408)
      else if e.Temporary then 503 else 400 := by
  rw [TrStatus.httpStatusCode, if_neg (by simpa using hn)]; rfl

/-- The generated client attributes the response to the error the server encoded: by status,
    and by the goa-error header where several errors share the status. -/
theorem client_roundtrip (t : List HErr) (h : HErr) (s : Option TrStatus.ErrorResponse)
    (hl : lookup h.name t = some h) :
    clientName t (encode t ⟨some h.name, s⟩) = some h.name := by
  have hmem : h ∈ t := lookup_mem hl
  simp only [encode, hl, clientName]
  have hg : h ∈ t.filter (·.code == h.code) := by simp [hmem]
  split
  · rename_i heq; rw [heq] at hg; simp at hg
  · rename_i x heq; rw [heq] at hg; simp at hg; rw [← hg]
  · cases hx : lookup h.name (t.filter (·.code == h.code)) with
    | none => exact absurd rfl (lookup_eq_none.mp hx h hg)
    | some x => simp [lookup_name hx]

/-- A status no declared error uses is reported as an invalid response, never as a declared error. -/
theorem client_unknown_status (t : List HErr) (w : Wire) (hno : ∀ h ∈ t, h.code ≠ w.status) :
    clientName t w = none := by
  have : t.filter (·.code == w.status) = [] := by
    rw [List.filter_eq_nil_iff]; intro h hh; simp [hno h hh]
  simp [clientName, this]

/-! ### Non-vacuity -/
def exCtx : Ctx :=
  { methodHTTP := [⟨"not_found", 404⟩, ⟨"bad_thing", 409⟩, ⟨"busy", 409⟩]
    methodErrs := ["not_found", "bad_thing", "busy", "api_down"]
    svcErrs := ["svc_err"]
    svcHTTP := [⟨"svc_err", 429⟩]
    apiHTTP := [⟨"api_down", 503⟩, ⟨"svc_err", 500⟩] }

example : table exCtx = [⟨"not_found", 404⟩, ⟨"bad_thing", 409⟩, ⟨"busy", 409⟩, ⟨"api_down", 503⟩, ⟨"svc_err", 429⟩] := by decide +kernel
example : (encode (table exCtx) ⟨some "busy", none⟩).status = 409 := by decide +kernel
example : clientName (table exCtx) (encode (table exCtx) ⟨some "busy", none⟩) = some "busy" := by decide +kernel
example : clientName (table exCtx) (encode (table exCtx) ⟨some "bad_thing", none⟩) = some "bad_thing" := by decide +kernel
example : (encode (table exCtx) ⟨some "other", some { Name := "other", Timeout := true }⟩).status = 408 := by decide +kernel

end GoaVerif.Props.C05
