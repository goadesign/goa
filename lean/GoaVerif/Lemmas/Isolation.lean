import GoaVerif.Model.Isolation
/-! What one step of `Model/Isolation.lean` does to the shared state, to the request that moved and
to the others. -/
namespace GoaVerif.Isolation
variable {σ L : Type} (sys : System σ L) (s : State σ L)

theorem step_shared (j : Nat) : (step sys s j).shared = s.shared := by
  unfold step; split <;> rfl

theorem step_locals_self {i : Nat} {l : L} (hi : s.locals[i]? = some l) :
    (step sys s i).locals[i]? = some (sys.stepLocal s.shared l) := by
  unfold step
  rw [hi]
  exact List.getElem?_set_self (List.getElem?_eq_some_iff.mp hi).1

theorem step_locals_ne {i j : Nat} (hji : j ≠ i) : (step sys s j).locals[i]? = s.locals[i]? := by
  unfold step
  split
  · rfl
  · exact List.getElem?_set_ne hji

end GoaVerif.Isolation
