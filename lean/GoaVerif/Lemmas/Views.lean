import GoaVerif.Model.Views
import GoaVerif.Lemmas.List
/-!
# What the definitions of `Model/Views.lean` do, case by case
`projV` and `projT` build their attribute lists with `filterMap`; the three facts about `filterMap` of
`Lemmas/List.lean` carry every statement about those lists.
-/
namespace GoaVerif.Views

theorem lookupT_mem (env : Env) (T : String) (t : RType) (h : lookupT env T = some t) : t ∈ env :=
  List.mem_of_find?_eq_some h

theorem viewOf_mem (t : RType) (view : String) (vfs : List ViewField) (h : viewOf t view = some vfs) :
    ∃ v ∈ t.views, v.2 = vfs := by
  obtain ⟨v, hf, rfl⟩ := Option.map_eq_some_iff.mp h
  exact ⟨v, List.mem_of_find?_eq_some hf, rfl⟩

theorem projField_some (rec : String → String → Val → Val) (t : RType) (fs : List (String × Val)) (vf : ViewField)
    (a : AttDecl) (x : Val) (ha : attrOf t vf.name = some a) (hx : fieldOf fs vf.name = some x) :
    projField rec t fs vf = some (vf.name, projAttr rec vf a x) := by
  simp [projField, ha, hx]

theorem projField_none (rec : String → String → Val → Val) (t : RType) (fs : List (String × Val)) (vf : ViewField)
    (h : attrOf t vf.name = none ∨ fieldOf fs vf.name = none) : projField rec t fs vf = none := by
  unfold projField
  rcases h with h | h <;> rw [h]
  cases attrOf t vf.name <;> rfl

theorem projField_fst (rec : String → String → Val → Val) (t : RType) (fs : List (String × Val)) (vf : ViewField) :
    (projField rec t fs vf).map (·.1) =
      if (attrOf t vf.name).isSome && (fieldOf fs vf.name).isSome then some vf.name else none := by
  unfold projField
  cases attrOf t vf.name <;> cases fieldOf fs vf.name <;> rfl

theorem projField_key (rec : String → String → Val → Val) (t : RType) (fs : List (String × Val)) (vf : ViewField)
    (p : String × Val) (h : projField rec t fs vf = some p) : p.1 = vf.name := by
  have := projField_fst rec t fs vf
  rw [h] at this
  split at this
  · exact Option.some.inj this
  · cases this

theorem projTField_fst (rec : String → String → PTree) (t : RType) (vf : ViewField) :
    (projTField rec t vf).map (·.1) = if (attrOf t vf.name).isSome then some vf.name else none := by
  unfold projTField
  cases ha : attrOf t vf.name with
  | none => rfl
  | some a => cases ht : a.target <;> simp [ht]

theorem projV_obj (env : Env) (fuel : Nat) (T view : String) (t : RType) (vfs : List ViewField)
    (fs : List (String × Val)) (hT : lookupT env T = some t) (hv : viewOf t view = some vfs) :
    projV env (fuel + 1) T view (.obj fs) =
      .obj (vfs.filterMap (projField (projV env fuel) t fs)) := by
  simp only [projV, hT, hv]

/-- the field of the projected object named by a view attribute, for a duplicate-free view -/
theorem fieldOf_proj (rec : String → String → Val → Val) (t : RType) (fs : List (String × Val))
    (vfs : List ViewField) (hnd : (vfs.map (·.name)).Nodup) (vf : ViewField) (hin : vf ∈ vfs) :
    fieldOf (vfs.filterMap (projField rec t fs)) vf.name = (projField rec t fs vf).map (·.2) :=
  lookup_filterMap (projField_key rec t fs) hnd vf hin

theorem projAttr_idem (rec : String → String → Val → Val) (hrec : ∀ T v x, rec T v (rec T v x) = rec T v x)
    (vf : ViewField) (a : AttDecl) (x : Val) :
    projAttr rec vf a (projAttr rec vf a x) = projAttr rec vf a x := by
  unfold projAttr
  cases a.target with
  | none => rfl
  | some T' =>
    dsimp only
    split
    · cases x <;> simp [hrec]
    · exact hrec ..

/-- projecting the projected fields again gives the same attribute, when the nested projection is idempotent -/
theorem projField_proj (rec : String → String → Val → Val) (hrec : ∀ T v x, rec T v (rec T v x) = rec T v x)
    (t : RType) (fs : List (String × Val)) (vfs : List ViewField) (hnd : (vfs.map (·.name)).Nodup)
    (vf : ViewField) (hin : vf ∈ vfs) :
    projField rec t (vfs.filterMap (projField rec t fs)) vf = projField rec t fs vf := by
  have hf := fieldOf_proj rec t fs vfs hnd vf hin
  unfold projField at hf ⊢
  rw [hf]
  cases attrOf t vf.name <;> cases fieldOf fs vf.name <;> simp [projAttr_idem rec hrec]

end GoaVerif.Views
