import GoaVerif.Model.TypeHash
import GoaVerif.Lemmas.List
/-!
Lemmas for the hash model (C13). A sort is a function of the multiset when the keys are distinct
(`isort_eq_of_perm`); the hash reads a graph only through sorted attribute lists, attribute types, field tags
and effective names (`Agree`, `hash_congr`); so a node or an attribute may be replaced by one that reads the same
(`Agree.set_node`, `Agree.set_att`), a reordering in particular.
-/
namespace GoaVerif.TypeHash

theorem insertBy_perm {α : Type} (le : α → α → Bool) (x : α) (l : List α) : (insertBy le x l).Perm (x :: l) := by
  induction l with
  | nil => exact List.Perm.refl _
  | cons y ys ih =>
    unfold insertBy
    split
    · exact List.Perm.refl _
    · exact (List.Perm.cons y ih).trans (List.Perm.swap x y ys)

theorem isort_perm {α : Type} (le : α → α → Bool) (l : List α) : (isort le l).Perm l := by
  induction l with
  | nil => exact List.Perm.refl _
  | cons x xs ih =>
    show (insertBy le x (isort le xs)).Perm (x :: xs)
    exact (insertBy_perm le x _).trans (List.Perm.cons x ih)

theorem insertBy_pairwise {α : Type} (le : α → α → Bool)
    (trans : ∀ a b c, le a b = true → le b c = true → le a c = true)
    (total : ∀ a b, le a b = true ∨ le b a = true)
    (x : α) (l : List α) (h : l.Pairwise (fun a b => le a b = true)) :
    (insertBy le x l).Pairwise (fun a b => le a b = true) := by
  induction l with
  | nil => exact List.pairwise_singleton ..
  | cons y ys ih =>
    obtain ⟨hy, hys⟩ := List.pairwise_cons.mp h
    unfold insertBy
    split
    · next hxy =>
      exact List.pairwise_cons.mpr ⟨List.forall_mem_cons.mpr ⟨hxy, fun z hz => trans _ _ _ hxy (hy z hz)⟩, h⟩
    · next hxy =>
      refine List.pairwise_cons.mpr ⟨fun z hz => ?_, ih hys⟩
      rcases List.mem_cons.mp ((insertBy_perm le x ys).subset hz) with rfl | hz
      · exact (total z y).resolve_left hxy
      · exact hy z hz

theorem isort_pairwise {α : Type} (le : α → α → Bool)
    (trans : ∀ a b c, le a b = true → le b c = true → le a c = true)
    (total : ∀ a b, le a b = true ∨ le b a = true) (l : List α) :
    (isort le l).Pairwise (fun a b => le a b = true) := by
  induction l with
  | nil => exact List.Pairwise.nil
  | cons x xs ih => exact insertBy_pairwise le trans total x _ ih

/-- **A sort is a function of the multiset.** For a total preorder `le` that is antisymmetric on the
    elements of the list, every permutation is sorted to the same list (`sort.Slice` is another algorithm:
    it too returns a sorted permutation, and there is only one). -/
theorem isort_eq_of_perm {α : Type} {le : α → α → Bool}
    (trans : ∀ a b c, le a b = true → le b c = true → le a c = true)
    (total : ∀ a b, le a b = true ∨ le b a = true) {l₁ l₂ : List α} (hp : l₁.Perm l₂)
    (anti : ∀ a ∈ l₁, ∀ b ∈ l₁, le a b = true → le b a = true → a = b) : isort le l₁ = isort le l₂ :=
  List.Perm.eq_of_pairwise
    (fun a b ha hb => anti a ((isort_perm le l₁).subset ha) b (hp.symm.subset ((isort_perm le l₂).subset hb)))
    (isort_pairwise le trans total l₁) (isort_pairwise le trans total l₂)
    ((isort_perm le l₁).trans (hp.trans (isort_perm le l₂).symm))

/-- sorting by a string key is insensitive to the input order when the keys are distinct -/
theorem isort_perm_eq {β : Type} (l₁ l₂ : List (String × β)) (hp : l₁.Perm l₂)
    (hd : (l₁.map (·.1)).Nodup) :
    isort (fun a b => decide (a.1 ≤ b.1)) l₁ = isort (fun a b => decide (a.1 ≤ b.1)) l₂ := by
  refine isort_eq_of_perm ?_ ?_ hp ?_
  · exact fun a b c h1 h2 => decide_eq_true (String.le_trans (of_decide_eq_true h1) (of_decide_eq_true h2))
  · exact fun a b => (String.le_total a.1 b.1).imp decide_eq_true decide_eq_true
  · intro a ha b hb h1 h2
    have hk : a.1 = b.1 := String.le_antisymm (of_decide_eq_true h1) (of_decide_eq_true h2)
    exact nodup_map_inj Prod.fst hd a ha b hb hk

theorem sortByName_perm (l₁ l₂ : List (String × Nat)) (hp : l₁.Perm l₂) (hd : (l₁.map (·.1)).Nodup) :
    sortByName l₁ = sortByName l₂ := isort_perm_eq l₁ l₂ hp hd

/-- normal form of a node: attribute / alternative lists sorted by name -/
def Node.norm : Node → Node
  | .obj fields => .obj (sortByName fields)
  | .union name vals => .union name (sortByName vals)
  | n => n

/-- what the hash reads of a graph -/
structure Agree (g g' : Graph) : Prop where
  nodes : ∀ k : Nat, (g.nodes[k]?).map Node.norm = (g'.nodes[k]?).map Node.norm
  ty : ∀ a, g.attTy a = g'.attTy a
  tags : ∀ a, fieldTags (g.attMeta a) = fieldTags (g'.attMeta a)
  name : ∀ nm a, effName nm (g.attMeta a) = effName nm (g'.attMeta a)

/-- nodes with one normal form are the same node, or two objects / two unions whose sorted lists agree -/
theorem Node.norm_eq_cases {a b : Node} (h : a.norm = b.norm) :
    a = b ∨ (∃ fs fs', a = .obj fs ∧ b = .obj fs' ∧ sortByName fs = sortByName fs') ∨
    ∃ nm vs vs', a = .union nm vs ∧ b = .union nm vs' ∧ sortByName vs = sortByName vs' := by
  cases a with
  | obj fs =>
    cases b with
    | obj fs' => exact .inr (.inl ⟨fs, fs', rfl, rfl, Node.obj.inj h⟩)
    | _ => cases h
  | union nm vs =>
    cases b with
    | union nm' vs' =>
      obtain ⟨rfl, hv⟩ := Node.union.inj h
      exact .inr (.inr ⟨nm, vs, vs', rfl, rfl, hv⟩)
    | _ => cases h
  | _ => cases b <;> cases h <;> exact .inl rfl

/-- **Congruence.** Two graphs that agree on sorted attribute lists, attribute types, field
    tags and effective names hash identically from every node, with every `seen` table. -/
theorem hash_congr (g g' : Graph) (f : Flags) (h : Agree g g') :
    ∀ fuel n seen, hash g f fuel n seen = hash g' f fuel n seen := by
  intro fuel
  induction fuel with
  | zero => intro n seen; rfl
  | succ fuel ih =>
    intro n seen
    have ihf : hash g f fuel = hash g' f fuel := funext fun n => funext (ih n)
    have hty : g.attTy = g'.attTy := funext h.ty
    have hn := h.nodes n
    unfold hash
    rw [ihf, hty]
    cases hk : g.nodes[n]? with
    | none =>
      cases hk' : g'.nodes[n]? with
      | none => rfl
      | some b => rw [hk, hk'] at hn; cases hn
    | some a =>
      cases hk' : g'.nodes[n]? with
      | none => rw [hk, hk'] at hn; cases hn
      | some b =>
        rw [hk, hk'] at hn
        -- what is left to compare is what is read of the metadata and, of an object or a union, the sorted list
        rcases Node.norm_eq_cases (Option.some.inj hn) with rfl | ⟨fs, fs', rfl, rfl, hs⟩ | ⟨nm, vs, vs', rfl, rfl, hs⟩
        · simp only [h.tags, h.name]
        · simp only [h.tags, hs]
        · simp only [hs]

theorem hashOf_congr {g g' : Graph} (h : Agree g g') (f : Flags) (fuel root : Nat) :
    hashOf g' f fuel root = hashOf g f fuel root :=
  congrArg Prod.fst (hash_congr g g' f h fuel root []).symm

/-! ### replacing a node or an attribute by one that reads the same -/

/-- a node may be replaced by any node with the same normal form -/
theorem Agree.set_node {g : Graph} {n : Nat} {x y : Node} (hx : g.nodes[n]? = some x) (hxy : x.norm = y.norm) :
    Agree g { g with nodes := g.nodes.set n y } :=
  ⟨fun k => (getElem?_set_map Node.norm hx hxy k).symm, fun _ => rfl, fun _ => rfl, fun _ _ => rfl⟩

theorem Graph.attTy_eq (g : Graph) (a : Nat) : g.attTy a = (g.atts[a]?.map Attr.ty).getD 0 := by
  unfold Graph.attTy; cases g.atts[a]? <;> rfl

/-- whatever is read of the metadata of attribute `a` -/
theorem Graph.attMeta_apply {β : Type} (F : List (String × List String) → β) (g : Graph) (a : Nat) :
    F (g.attMeta a) = (g.atts[a]?.map fun x => F x.md).getD (F []) := by
  unfold Graph.attMeta; cases g.atts[a]? <;> rfl

/-- an attribute may be replaced by any attribute of which the hash reads the same -/
theorem Agree.set_att {g : Graph} {a : Nat} {x y : Attr} (hx : g.atts[a]? = some x) (hty : x.ty = y.ty)
    (htags : fieldTags x.md = fieldTags y.md) (hname : ∀ nm, effName nm x.md = effName nm y.md) :
    Agree g { g with atts := g.atts.set a y } where
  nodes _ := rfl
  ty b := by
    rw [Graph.attTy_eq, Graph.attTy_eq, getElem?_set_map Attr.ty hx hty]
  tags b := by
    rw [Graph.attMeta_apply fieldTags, Graph.attMeta_apply fieldTags, getElem?_set_map (fun x => fieldTags x.md) hx htags]
  name nm b := by
    rw [Graph.attMeta_apply (effName nm), Graph.attMeta_apply (effName nm),
      getElem?_set_map (fun x => effName nm x.md) hx (hname nm)]

end GoaVerif.TypeHash
