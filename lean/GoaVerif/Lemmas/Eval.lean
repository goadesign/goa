import GoaVerif.Model.Eval
/-! Helper lemmas for C11: which events each part of `RunDSL` can add to the trace. -/
namespace GoaVerif.Eval

/-- `s'` extends the trace of `s` with events of phase `ph` only -/
def Adds (ph : Phase) (s s' : St) : Prop :=
  ∃ l, s'.trace = s.trace ++ l ∧ ∀ e ∈ l, e.phase = ph

theorem Adds.of_trace_eq {ph : Phase} {a b : St} (h : b.trace = a.trace) : Adds ph a b :=
  ⟨[], by simp [h], by simp⟩

theorem Adds.refl (ph : Phase) (s : St) : Adds ph s s := .of_trace_eq rfl

theorem Adds.trans {ph : Phase} {a b c : St} (h1 : Adds ph a b) (h2 : Adds ph b c) : Adds ph a c := by
  obtain ⟨l1, e1, p1⟩ := h1
  obtain ⟨l2, e2, p2⟩ := h2
  exact ⟨l1 ++ l2, by rw [e2, e1, List.append_assoc],
    fun e he => (List.mem_append.mp he).elim (p1 e) (p2 e)⟩

theorem foldl_adds {α} (ph : Phase) (f : St → α → St) (hf : ∀ s x, Adds ph s (f s x))
    (l : List α) (s : St) : Adds ph s (l.foldl f s) :=
  List.foldlRecOn l f (Adds.refl ph s) fun b hb x _ => hb.trans (hf b x)

theorem applyEff_trace (w : World) (s : St) (e : Eff) : (applyEff w s e).trace = s.trace := by
  cases e with
  | err t => rfl
  | register r =>
    simp only [applyEff]
    split
    · rfl
    · split <;> rfl
  | append r i x => rfl

theorem effs_trace (w : World) (effs : List Eff) (s : St) : (effs.foldl (applyEff w) s).trace = s.trace :=
  List.foldlRecOn (motive := fun b => b.trace = s.trace) effs _ rfl fun b hb e _ => (applyEff_trace w b e).trans hb

theorem runSet_adds (w : World) (root : Name) (s : St) (snap : List Nat) :
    Adds .dsl s (runSet w root s snap) := by
  unfold runSet
  apply foldl_adds
  intro s id
  split
  · split
    · exact ⟨[⟨.dsl, root, id⟩], effs_trace .., by simp⟩
    · exact .refl _ _
  · exact .refl _ _

theorem execRoot_adds (w : World) (root : Name) (fuel i : Nat) (s : St) :
    Adds .dsl s (execRoot w root fuel i s) := by
  induction fuel generalizing i s with
  | zero => exact .refl _ _
  | succ n ih =>
    unfold execRoot
    split
    · exact .refl _ _
    · exact (runSet_adds w root s _).trans (ih _ _)

theorem execLoop_adds (w : World) (of fuel : Nat) (roots : List Name) (start : Nat) (s s' : St)
    (rs : List Name) (h : execLoop w of fuel roots start s = some (s', rs)) : Adds .dsl s s' := by
  induction fuel generalizing roots start s with
  | zero => cases h; exact .refl _ _
  | succ n ih =>
    unfold execLoop at h
    split at h
    · cases h; exact .refl _ _
    · simp only at h
      split at h
      · cases h
      · exact (foldl_adds .dsl _ (fun s r => execRoot_adds w r maxSets 0 s) _ s).trans (ih _ _ _ h)

/-- `visit` does nothing, or records the callback; only validation adds errors -/
theorem visit_cases (w : World) (ph : Phase) (root : Name) (s : St) (id : Nat) :
    visit w ph root s id = s ∨ (visit w ph root s id).trace = s.trace ++ [⟨ph, root, id⟩] ∧
      (ph ≠ .validate → (visit w ph root s id).errors = s.errors) := by
  unfold visit
  split
  · exact .inl rfl
  · rename_i e _
    cases ph with
    | dsl => exact .inl rfl
    | prepare =>
      cases e.prep
      · exact .inl rfl
      · exact .inr ⟨rfl, fun _ => rfl⟩
    | validate =>
      cases e.val
      · exact .inl rfl
      · exact .inr ⟨rfl, fun h => absurd rfl h⟩
    | finalize =>
      cases e.fin
      · exact .inl rfl
      · exact .inr ⟨rfl, fun _ => rfl⟩

theorem visit_adds (w : World) (ph : Phase) (root : Name) (s : St) (id : Nat) :
    Adds ph s (visit w ph root s id) := by
  rcases visit_cases w ph root s id with h | h
  · exact .of_trace_eq (by rw [h])
  · exact ⟨[_], h.1, by simp⟩

theorem phase_adds (w : World) (ph : Phase) (roots : List Name) (s : St) :
    Adds ph s (phase w ph roots s) := by
  unfold phase
  apply foldl_adds
  intro s r
  have h1 : Adds ph s (match w.def? r with | some d => visit w ph r s d.self | none => s) := by
    split
    · exact visit_adds ..
    · exact .refl _ _
  exact h1.trans (foldl_adds ph _ (fun s set => foldl_adds ph _ (visit_adds w ph r) set s) _ _)

/-- the errors recorded by a phase other than validation are unchanged -/
theorem visit_errors_nonval (w : World) (ph : Phase) (hp : ph ≠ .validate) (root : Name) (s : St) (id : Nat) :
    (visit w ph root s id).errors = s.errors := by
  rcases visit_cases w ph root s id with h | h
  · rw [h]
  · exact h.2 hp

/-! ### the execution phase -/

/-- the trace when the execution phase is over -/
def outTrace : ExecOut → List Ev
  | .cycle tr => tr
  | .empty => []
  | .done s1 => s1.trace

/-- a cycle is reported before anything runs, and execution leaves only DSL events -/
theorem execStage_dsl (w : World) (init : List Name) (fuel : Nat) :
    ∀ e ∈ outTrace (execStage w init fuel), e.phase = .dsl := by
  unfold execStage
  simp only
  split
  · exact List.forall_mem_nil _
  · split
    · exact List.forall_mem_nil _
    · split
      · exact List.forall_mem_nil _
      · rename_i s1 rs hl
        obtain ⟨l, hl1, hl2⟩ := execLoop_adds w fuel 101 _ 0 _ s1 rs hl
        simp only [outTrace, hl1, List.nil_append]
        exact hl2

theorem execStage_trace (w : World) (init : List Name) (fuel : Nat) (s1 : St)
    (h : execStage w init fuel = .done s1) : ∀ e ∈ s1.trace, e.phase = .dsl := by
  have := execStage_dsl w init fuel
  rwa [h] at this

end GoaVerif.Eval
