import GoaVerif.Model.Errors
/-!
Lemmas for C18. `mergeSE` is a semigroup operation that acts on each observation
(`name`, `field`, `msg`, the flags, `history`, `causes`) separately; `merge` adjoins `.nil`
to it as a unit, so `(GoErr, merge, .nil)` is a monoid and `mergeTree`, `mergeList` are its folds.
-/
namespace GoaVerif.Errors

@[simp] theorem asSvc_svc (e : SE) : asSvc (.svc e) = e := rfl

/-! ### `mergeSE`, one observation at a time -/

theorem SE.history_ne_nil (e : SE) : e.history ≠ [] := by
  unfold SE.history
  split
  · simp
  · rename_i h; intro h2; simp [h2] at h

section
variable (e o : SE)

/- Proved by `rw`, not `rfl`: as a `rfl` lemma `simp` would rewrite with it by definitional
   unfolding under `if _ == "error"`, and checking that the `Decidable (_ = "error")` instances
   agree unfolds `String.decEq`, which is very slow. -/
theorem mergeSE_name : (mergeSE e o).name = if e.name == "error" then o.name else e.name := by
  rw [mergeSE]
@[simp] theorem mergeSE_field : (mergeSE e o).field = e.field := rfl
@[simp] theorem mergeSE_msg : (mergeSE e o).msg = e.msg ++ "; " ++ o.msg := rfl
@[simp] theorem mergeSE_timeout : (mergeSE e o).timeout = (e.timeout && o.timeout) := rfl
@[simp] theorem mergeSE_temporary : (mergeSE e o).temporary = (e.temporary && o.temporary) := rfl
@[simp] theorem mergeSE_fault : (mergeSE e o).fault = (e.fault && o.fault) := rfl
@[simp] theorem mergeSE_hist : (mergeSE e o).hist = e.history ++ o.history := rfl
@[simp] theorem mergeSE_causes : (mergeSE e o).causes = e.causes ++ o.causes := rfl

@[simp] theorem mergeSE_history : (mergeSE e o).history = e.history ++ o.history := by
  rw [SE.history, mergeSE_hist, if_neg]
  simp [SE.history_ne_nil e]

end

theorem mergeSE_assoc (a b c : SE) : mergeSE (mergeSE a b) c = mergeSE a (mergeSE b c) := by
  apply SE.ext <;> simp only [mergeSE_name, mergeSE_field, mergeSE_msg, mergeSE_timeout,
    mergeSE_temporary, mergeSE_fault, mergeSE_hist, mergeSE_history, mergeSE_causes,
    String.append_assoc, Bool.and_assoc, List.append_assoc]
  -- what is left is `name`: the first operand whose name is not "error" decides
  split <;> simp [*]

/-! ### `merge`: `mergeSE` on non-nil operands, `.nil` a unit -/

/-- `MergeErrors` as its Go text reads: two nil tests, then the merge proper. -/
theorem merge_def (x y : GoErr) :
    merge x y = if x = .nil then y else if y = .nil then x
      else .svc (mergeSE (asSvc x) (asSvc y)) := by
  unfold merge
  split <;> simp_all

@[simp] theorem nil_merge (x : GoErr) : merge .nil x = x := rfl

@[simp] theorem merge_nil (x : GoErr) : merge x .nil = x := by
  cases x <;> rfl

theorem merge_nonnil (x y : GoErr) (hx : x ≠ .nil) (hy : y ≠ .nil) :
    merge x y = .svc (mergeSE (asSvc x) (asSvc y)) := by
  rw [merge_def, if_neg hx, if_neg hy]

/-- What `errors.As` returns for the merge of two non-nil errors. -/
theorem asSvc_merge (x y : GoErr) (hx : x ≠ .nil) (hy : y ≠ .nil) :
    asSvc (merge x y) = mergeSE (asSvc x) (asSvc y) := by
  rw [merge_nonnil x y hx hy, asSvc_svc]

theorem merge_ne_nil (x y : GoErr) (hx : x ≠ .nil) : merge x y ≠ .nil := by
  rw [merge_def, if_neg hx]
  split <;> simp [hx]

theorem merge_assoc (x y z : GoErr) : merge (merge x y) z = merge x (merge y z) := by
  by_cases hx : x = .nil
  · subst hx; simp
  by_cases hy : y = .nil
  · subst hy; simp
  by_cases hz : z = .nil
  · subst hz; simp
  rw [merge_nonnil x y hx hy, merge_nonnil y z hy hz]
  rw [merge_nonnil _ z (by simp) hz, merge_nonnil x _ hx (by simp)]
  simp only [asSvc_svc, mergeSE_assoc]

/-! ### Folds of the monoid -/

theorem mergeList_append (l₁ l₂ : List GoErr) :
    mergeList (l₁ ++ l₂) = merge (mergeList l₁) (mergeList l₂) := by
  induction l₁ with
  | nil => simp [mergeList]
  | cons a l ih => simp [mergeList, ih, merge_assoc]

theorem mergeList_filter_nil (l : List GoErr) :
    mergeList (l.filter GoErr.nonNil) = mergeList l := by
  induction l with
  | nil => rfl
  | cons a l ih =>
    cases a <;> simp [List.filter_cons, GoErr.nonNil, mergeList, ih]

theorem mergeTree_eq_mergeList (t : Tree) : mergeTree t = mergeList t.leaves := by
  induction t with
  | leaf e => simp [mergeTree, Tree.leaves, mergeList]
  | node l r ihl ihr => simp [mergeTree, Tree.leaves, mergeList_append, ihl, ihr]

theorem mergeTree_eq_mergeList_filter (t : Tree) :
    mergeTree t = mergeList (t.leaves.filter GoErr.nonNil) := by
  rw [mergeTree_eq_mergeList, mergeList_filter_nil]

theorem mergeList_ne_nil (a : GoErr) (l : List GoErr) (h : ∀ x ∈ a :: l, x ≠ GoErr.nil) :
    mergeList (a :: l) ≠ .nil :=
  merge_ne_nil a _ (h a (by simp))

theorem mergeList_view (a : GoErr) (l : List GoErr) (h : ∀ x ∈ a :: l, x ≠ GoErr.nil) :
    let r := asSvc (mergeList (a :: l))
    r.name = firstSpecific ((a :: l).map fun x => (asSvc x).name) ∧
    r.msg = joinMsgs ((a :: l).map fun x => (asSvc x).msg) ∧
    r.timeout = (a :: l).all (fun x => (asSvc x).timeout) ∧
    r.temporary = (a :: l).all (fun x => (asSvc x).temporary) ∧
    r.fault = (a :: l).all (fun x => (asSvc x).fault) ∧
    r.history = (a :: l).flatMap (fun x => (asSvc x).history) ∧
    r.causes = (a :: l).flatMap (fun x => (asSvc x).causes) ∧
    r.field = (asSvc a).field := by
  induction l generalizing a with
  | nil => simp [mergeList, firstSpecific, joinMsgs]
  | cons b l ih =>
    have hbl : ∀ x ∈ b :: l, x ≠ GoErr.nil := fun x hx => h x (List.mem_cons_of_mem _ hx)
    obtain ⟨i1, i2, i3, i4, i5, i6, i7, _⟩ := ih b hbl
    rw [mergeList, asSvc_merge a _ (h a (by simp)) (mergeList_ne_nil b l hbl)]
    simp only [mergeSE_name, mergeSE_field, mergeSE_msg, mergeSE_timeout, mergeSE_temporary,
      mergeSE_fault, mergeSE_history, mergeSE_causes, i1, i2, i3, i4, i5, i6, i7]
    exact ⟨rfl, rfl, rfl, rfl, rfl, rfl, rfl, trivial⟩

end GoaVerif.Errors
