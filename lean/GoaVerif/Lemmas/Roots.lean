import GoaVerif.Model.Eval
/-!
Lemmas for `roots_topo` (C11): `sortDependenciesR` as written (the `seen` table is only updated
when the walk descends) terminates within `2·|U|+1` nested calls over a finite universe `U`
closed under the dependency function, visits every dependency of every node it appends, appends
only reachable nodes and — when the dependency function is transitively closed and antisymmetric —
appends a node only after all its strict dependencies.
-/
namespace GoaVerif.Eval

variable (f : Name → List Name)

/-- the body of the loop of `sortR` -/
def stepR (fuel : Nat) (root : Name) (st : List Name × List Name) (d : Name) : List Name × List Name :=
  if st.1.contains d then st else sortR f fuel d (root :: st.1, st.2)

theorem sortR_zero (root : Name) (st : List Name × List Name) : sortR f 0 root st = (st.1, st.2 ++ [root]) := rfl

theorem sortR_succ (fuel : Nat) (root : Name) (st : List Name × List Name) :
    sortR f (fuel + 1) root st =
      (((f root).foldl (stepR f fuel root) st).1, ((f root).foldl (stepR f fuel root) st).2 ++ [root]) := rfl

theorem sortR_root_mem (fuel : Nat) (root : Name) (st : List Name × List Name) :
    root ∈ (sortR f fuel root st).2 := by
  cases fuel <;> simp [sortR]

inductive Reach : Name → Name → Prop where
  | refl (a : Name) : Reach a a
  | head {a b c : Name} : b ∈ f a → Reach b c → Reach a c

theorem Reach.trans {a b c : Name} (h1 : Reach f a b) (h2 : Reach f b c) : Reach f a c := by
  induction h1 with
  | refl a => exact h2
  | head hb _ ih => exact .head hb (ih h2)

theorem Reach.tail {a b c : Name} (h : Reach f a b) (hc : c ∈ f b) : Reach f a c :=
  h.trans f (.head hc (.refl c))

theorem Reach.mem_of_closed {l : List Name} {a b : Name} (hcl : ∀ z ∈ l, ∀ y ∈ f z, y ∈ l) (ha : a ∈ l)
    (h : Reach f a b) : b ∈ l := by
  induction h with
  | refl a => exact ha
  | head hb _ ih => exact ih (hcl _ ha _ hb)

/-! ### the potential that bounds the nesting depth -/

/-- members of `U` (with multiplicity) not in `S` -/
def unseen (U S : List Name) : Nat := (U.filter (!S.contains ·)).length

theorem unseen_mono {U S S' : List Name} (h : S ⊆ S') : unseen U S' ≤ unseen U S := by
  simp only [unseen, ← List.countP_eq_length_filter]
  exact List.countP_mono_left fun a _ ha => by simp at ha ⊢; exact fun h' => ha (h h')

theorem unseen_cons_lt {U S : List Name} {d : Name} (hdU : d ∈ U) (hd : d ∉ S) :
    unseen U (d :: S) < unseen U S := by
  simp only [unseen, List.contains_cons, Bool.not_or, ← List.filter_filter]
  exact List.length_filter_lt_length_iff_exists.mpr ⟨d, by simp [hdU, hd], by simp⟩

/-- The measure of a call on `x`: an unmarked node of `U` counts 2, except `x` itself, which counts 1.
    Descending into an unmarked `d` marks `x` and makes `d` the node that counts 1, so `d` loses a
    unit whether `d ≠ x` (2 → 1) or `d = x` (1 → 0: a node that lists itself is walked once more
    before it is marked), and no node gains one. -/
def pot (U seen : List Name) (x : Name) : Nat := unseen U seen + unseen U (x :: seen)

theorem pot_mono {U s1 s2 : List Name} (x : Name) (h : s1 ⊆ s2) : pot U s2 x ≤ pot U s1 x :=
  Nat.add_le_add (unseen_mono h) (unseen_mono (List.cons_subset_cons x h))

theorem pot_descent {U seen : List Name} {x d : Name} (hdU : d ∈ U) (hd : d ∉ seen) :
    pot U (x :: seen) d < pot U seen x := by
  have h1 : unseen U (d :: x :: seen) ≤ unseen U (d :: seen) :=
    unseen_mono (List.cons_subset_cons d (List.subset_cons_self x seen))
  have h2 := unseen_cons_lt hdU hd
  unfold pot; omega

theorem pot_init_lt (U : List Name) (x : Name) : pot U [] x < 2 * U.length + 2 := by
  have h1 := List.length_filter_le (fun u => !([] : List Name).contains u) U
  have h2 := List.length_filter_le (fun u => !([x] : List Name).contains u) U
  unfold pot unseen; omega

/-! ### the order: every occurrence of a node is preceded by all its strict dependencies -/

def GoodAux (pre : List Name) : List Name → Prop
  | [] => True
  | z :: q => (∀ y ∈ f z, y ≠ z → y ∈ pre) ∧ GoodAux (pre ++ [z]) q

def Good (l : List Name) : Prop := GoodAux f [] l

theorem goodAux_append (pre l m : List Name) :
    GoodAux f pre (l ++ m) ↔ GoodAux f pre l ∧ GoodAux f (pre ++ l) m := by
  induction l generalizing pre with
  | nil => simp [GoodAux]
  | cons z q ih => simp [GoodAux, ih, and_assoc]

/-- only the members of `pre` matter -/
theorem goodAux_mono {pre pre' : List Name} (h : pre ⊆ pre') (l : List Name) (hg : GoodAux f pre l) :
    GoodAux f pre' l := by
  induction l generalizing pre pre' with
  | nil => trivial
  | cons z q ih =>
    refine ⟨fun y hy hne => h (hg.1 y hy hne), ih (fun y hy => ?_) hg.2⟩
    exact (List.mem_append.mp hy).elim (fun h' => List.mem_append_left _ (h h')) (List.mem_append_right _)

/-- reading the order off a good list -/
theorem goodAux_split (pre p q : List Name) (z : Name) (h : GoodAux f pre (p ++ z :: q)) :
    ∀ y ∈ f z, y ≠ z → y ∈ pre ++ p :=
  ((goodAux_append f pre p (z :: q)).mp h).2.1

theorem good_concat {l : List Name} {x : Name} (hl : Good f l) (hx : ∀ y ∈ f x, y ≠ x → y ∈ l) :
    Good f (l ++ [x]) :=
  (goodAux_append f [] l [x]).mpr ⟨hl, hx, trivial⟩

def Trans : Prop := ∀ a b c, b ∈ f a → c ∈ f b → c ∈ f a
def Antisym : Prop := ∀ a b, b ∈ f a → a ≠ b → a ∉ f b

/-- `stack`: the nodes whose calls are still active. Every seen node is already sorted or still
    active; every dependency of a sorted node is sorted or still active. -/
structure Inv (stack : List Name) (st : List Name × List Name) : Prop where
  seen_ok : ∀ y ∈ st.1, y ∈ st.2 ∨ y ∈ stack
  closed : ∀ z ∈ st.2, ∀ y ∈ f z, y ∈ st.2 ∨ y ∈ stack

theorem Inv.weaken {stack : List Name} {st : List Name × List Name} (x : Name) (h : Inv f stack st) :
    Inv f (x :: stack) st :=
  ⟨fun y hy => (h.seen_ok y hy).imp id (List.mem_cons_of_mem _),
   fun z hz y hy => (h.closed z hz y hy).imp id (List.mem_cons_of_mem _)⟩

/-- What a part of the walk that works for the call on `x` (the whole call, or some of its loop)
    does to the state, `stack` being active throughout. `ds`: the nodes it has dealt with (the
    dependencies the loop has passed; `x` itself for the whole call), which are sorted or active
    afterwards. `good`: the active calls are a chain of dependencies, so with `Trans` every active node
    other than `x` depends on `x`, and that passes to the nested calls (`Post.lift`); with `Antisym`
    none of them is a dependency of `x`, so the strict dependencies of `x`, sorted or active when
    its loop ends, are sorted (`Post.finish`). -/
structure Post (x : Name) (stack ds : List Name) (st st' : List Name × List Name) : Prop where
  inv : Inv f stack st'
  seen_mono : st.1 ⊆ st'.1
  sorted_mono : st.2 ⊆ st'.2
  sound : ∀ z ∈ st'.2, z ∈ st.2 ∨ Reach f x z
  done : ∀ d ∈ ds, d ∈ st'.2 ∨ d ∈ stack
  good : Trans f → Antisym f → (∀ s ∈ stack, s = x ∨ x ∈ f s) → Good f st.2 → Good f st'.2

section
variable {f} {x d : Name} {stack ds ds' : List Name} {st st' st'' : List Name × List Name}

theorem Post.refl (h : Inv f stack st) : Post f x stack [] st st :=
  ⟨h, fun _ h => h, fun _ h => h, fun _ h => .inl h, List.forall_mem_nil _, fun _ _ _ h => h⟩

theorem Post.trans (h1 : Post f x stack ds st st') (h2 : Post f x stack ds' st' st'') :
    Post f x stack (ds ++ ds') st st'' :=
  ⟨h2.inv, fun _ h => h2.seen_mono (h1.seen_mono h), fun _ h => h2.sorted_mono (h1.sorted_mono h),
   fun z hz => (h2.sound z hz).elim (h1.sound z) .inr,
   fun d hd => (List.mem_append.mp hd).elim (fun h => (h1.done d h).imp (fun h => h2.sorted_mono h) id) (h2.done d),
   fun ht ha hac hg => h2.good ht ha hac (h1.good ht ha hac hg)⟩

/-- a marked node is left alone -/
theorem Post.skip (h : Inv f stack st) (hd : d ∈ st.1) : Post f x stack [d] st st :=
  { Post.refl h with done := fun _ hd' => List.mem_singleton.mp hd' ▸ h.seen_ok d hd }

/-- the call on a dependency `d` of `x`, seen from the loop of `x` -/
theorem Post.lift (hd : d ∈ f x) (h : Post f d (x :: stack) ds (x :: st.1, st.2) st') :
    Post f x (x :: stack) ds st st' :=
  ⟨h.inv, fun _ ha => h.seen_mono (List.mem_cons_of_mem _ ha), h.sorted_mono,
   fun z hz => (h.sound z hz).imp_right (.head hd), h.done,
   fun ht ha hac => h.good ht ha fun s hs =>
    .inr ((hac s hs).elim (fun e => e ▸ hd) fun hxs => ht s x d hxs hd)⟩

/-- the loop of `x` is over: `x` is appended and no longer active -/
theorem Post.finish (h : Post f x (x :: stack) (f x) st st') : Post f x stack [x] st (st'.1, st'.2 ++ [x]) := by
  have pop : ∀ {y}, y ∈ st'.2 ∨ y ∈ x :: stack → y ∈ st'.2 ++ [x] ∨ y ∈ stack := fun h =>
    h.elim (fun h => .inl (List.mem_append_left _ h)) fun h =>
      (List.mem_cons.mp h).elim (fun e => .inl (by simp [e])) .inr
  refine ⟨⟨fun y hy => pop (h.inv.seen_ok y hy), fun z hz y hy => pop ?_⟩, h.seen_mono,
    fun _ ha => List.mem_append_left _ (h.sorted_mono ha), fun z hz => ?_,
    fun d hd => .inl (by simp [List.mem_singleton.mp hd]), fun ht ha hac hg => ?_⟩
  · rcases List.mem_append.mp hz with hz | hz
    · exact h.inv.closed z hz y hy
    · exact h.done y (List.mem_singleton.mp hz ▸ hy)
  · rcases List.mem_append.mp hz with hz | hz
    · exact h.sound z hz
    · exact .inr (List.mem_singleton.mp hz ▸ .refl z)
  · have hac' : ∀ s ∈ x :: stack, s = x ∨ x ∈ f s := fun s hs => (List.mem_cons.mp hs).elim .inl (hac s)
    refine good_concat f (h.good ht ha hac' hg) fun y hy hne => (h.done y hy).elim id fun hys => ?_
    exact absurd hy (ha y x ((hac' y hys).resolve_left hne) hne)

end

/-- Specification of `sortDependenciesR`. The nested calls are the induction on the fuel, which the
    measure of a call stays below; the loop is the induction on the dependencies still to be walked. -/
theorem sortR_post (U : List Name) (hU : ∀ x ∈ U, ∀ y ∈ f x, y ∈ U) :
    ∀ (fuel : Nat) (x : Name) (stack : List Name) (st : List Name × List Name),
      x ∈ U → pot U st.1 x < fuel → Inv f stack st → Post f x stack [x] st (sortR f fuel x st) := by
  intro fuel
  induction fuel with
  | zero => exact fun x stack st _ h => absurd h (Nat.not_lt_zero _)
  | succ fuel ih =>
    intro x stack st hx hpot hinv
    have loop : ∀ (ds : List Name) (st : List Name × List Name), (∀ d ∈ ds, d ∈ f x) →
        Inv f (x :: stack) st → pot U st.1 x ≤ fuel →
        Post f x (x :: stack) ds st (ds.foldl (stepR f fuel x) st) := by
      intro ds
      induction ds with
      | nil => exact fun st _ hinv _ => .refl hinv
      | cons d ds ihds =>
        intro st hds hinv hpot
        have hdx : d ∈ f x := hds d (List.mem_cons_self ..)
        have step : Post f x (x :: stack) [d] st (stepR f fuel x st d) := by
          unfold stepR
          split
          · rename_i hc
            exact .skip hinv (List.contains_iff_mem.mp hc)
          · -- `x` is marked and `d` walked: a call of lower measure, so `ih` applies
            rename_i hc
            have hdU : d ∈ U := hU x hx d hdx
            have hp := pot_descent (x := x) hdU (fun h => hc (List.contains_iff_mem.mpr h))
            have hinv1 : Inv f (x :: stack) (x :: st.1, st.2) :=
              ⟨fun y hy => (List.mem_cons.mp hy).elim (fun e => .inr (e ▸ List.mem_cons_self ..)) (hinv.seen_ok y),
               hinv.closed⟩
            exact (ih d (x :: stack) (x :: st.1, st.2) hdU (Nat.lt_of_lt_of_le hp hpot) hinv1).lift hdx
        exact step.trans (ihds _ (fun d' h => hds d' (List.mem_cons_of_mem _ h)) step.inv
          (Nat.le_trans (pot_mono x step.seen_mono) hpot))
    rw [sortR_succ]
    exact (loop (f x) st (fun _ h => h) (hinv.weaken f x) (Nat.le_of_lt_succ hpot)).finish

structure SortSpec (x : Name) (l : List Name) : Prop where
  root_mem : x ∈ l
  closed : ∀ z ∈ l, ∀ y ∈ f z, y ∈ l
  sound : ∀ z ∈ l, Reach f x z
  good : Trans f → Antisym f → Good f l

section spec
variable (U : List Name) (hU : ∀ x ∈ U, ∀ y ∈ f x, y ∈ U) (fuel : Nat) (hfuel : 2 * U.length + 2 ≤ fuel)
  {x : Name} (hx : x ∈ U)
include hU hfuel hx

/-- `sortDependencies` over a finite universe closed under `f`, with enough fuel -/
theorem sortDeps_spec : SortSpec f x (sortDeps f fuel x) := by
  have p := sortR_post f U hU fuel x [] ([], []) hx
    (Nat.lt_of_lt_of_le (pot_init_lt U x) hfuel) ⟨List.forall_mem_nil _, List.forall_mem_nil _⟩
  exact ⟨sortR_root_mem .., fun z hz y hy => (p.inv.closed z hz y hy).resolve_right (List.not_mem_nil),
    fun z hz => (p.sound z hz).resolve_left (List.not_mem_nil), fun ht ha => p.good ht ha (List.forall_mem_nil _) trivial⟩

/-- the list computed is the set of nodes reachable from `x` -/
theorem mem_sortDeps {y : Name} : y ∈ sortDeps f fuel x ↔ Reach f x y :=
  have sp := sortDeps_spec f U hU fuel hfuel hx
  ⟨sp.sound y, Reach.mem_of_closed f sp.closed sp.root_mem⟩

end spec

/-! ### merging with `appendNew`: no duplicates, same members, same order -/

theorem appendNew_cons (acc : List Name) (x : Name) (s : List Name) :
    appendNew acc (x :: s) = appendNew (if x ∈ acc then acc else acc ++ [x]) s := by
  simp [appendNew]

theorem appendNew_nodup (acc s : List Name) (h : acc.Nodup) : (appendNew acc s).Nodup := by
  induction s generalizing acc with
  | nil => exact h
  | cons x s ih =>
    rw [appendNew_cons]
    apply ih
    split
    · exact h
    · rename_i hx
      simp [List.nodup_append, h]
      exact fun a ha e => hx (e ▸ ha)

theorem appendNew_mem (acc s : List Name) (x : Name) : x ∈ appendNew acc s ↔ x ∈ acc ∨ x ∈ s := by
  induction s generalizing acc with
  | nil => simp [appendNew]
  | cons y s ih =>
    rw [appendNew_cons, ih]
    split
    · rename_i hy
      simp only [List.mem_cons]
      exact ⟨fun h => h.imp_right .inr, fun h => h.elim .inl fun h => h.elim (fun e => .inl (e ▸ hy)) .inr⟩
    · simp [or_assoc]

/-- `appendNew acc s` is `acc ++ s` without the occurrences of a node after its first -/
theorem appendNew_good (s acc : List Name) (h : Good f (acc ++ s)) : Good f (appendNew acc s) := by
  induction s generalizing acc with
  | nil => simpa [appendNew] using h
  | cons x s ih =>
    rw [appendNew_cons]
    apply ih
    split
    · rename_i hx
      have ⟨h1, _, h2⟩ := (goodAux_append f [] acc (x :: s)).mp h
      exact (goodAux_append f [] acc s).mpr ⟨h1, goodAux_mono f (by simp [hx]) s h2⟩
    · simpa using h

theorem good_flatMap (h : Name → List Name) (rs : List Name) (hs : ∀ r ∈ rs, Good f (h r)) :
    Good f (rs.flatMap h) := by
  induction rs with
  | nil => trivial
  | cons r rs ih =>
    rw [List.flatMap_cons]
    exact (goodAux_append f [] _ _).mpr ⟨hs r (List.mem_cons_self ..),
      goodAux_mono f (List.nil_subset _) _ (ih fun r' hr' => hs r' (List.mem_cons_of_mem _ hr'))⟩

/-! ### the registry: flattened dependencies -/

section registry
variable (g : Reg) (fuel : Nat)

theorem mem_flatDeps {r y : Name} : y ∈ flatDeps g fuel r ↔ r ∈ g.roots ∧ y ∈ sortDeps g.dep fuel r := by
  unfold flatDeps
  by_cases h : r ∈ g.roots
  · simp [h]
  · simp [h]

theorem flatDeps_antisym {g : Reg} {fuel : Nat} (h : hasCycle g fuel = false) : Antisym (flatDeps g fuel) := by
  intro a b hb hne hab
  have : hasCycle g fuel = true := by
    simp only [hasCycle, List.any_eq_true]
    exact ⟨a, ((mem_flatDeps g fuel).mp hb).1, b, ((mem_flatDeps g fuel).mp hab).1, by simp [hne, hb, hab]⟩
  simp [h] at this

/-- `Roots`, when it reports no cycle: the sorted lists of the roots one after the other, every
    node kept where it occurs first -/
theorem rootsOrder_eq_some {g : Reg} {fuel : Nat} {l : List Name} (h : rootsOrder g fuel = some l) :
    hasCycle g fuel = false ∧
      l = appendNew [] (g.roots.flatMap fun r => sortDeps (flatDeps g fuel) fuel r) := by
  unfold rootsOrder at h
  split at h
  · cases h
  · exact ⟨Bool.eq_false_iff.mpr ‹_›, (Option.some.inj h).symm.trans List.foldl_flatMap.symm⟩

theorem mem_rootsOrder {g : Reg} {fuel : Nat} {l : List Name} (h : rootsOrder g fuel = some l) (x : Name) :
    x ∈ l ↔ ∃ r ∈ g.roots, x ∈ sortDeps (flatDeps g fuel) fuel r := by
  obtain ⟨_, rfl⟩ := rootsOrder_eq_some h
  simp [appendNew_mem]

variable (U : List Name) (hU : ∀ x ∈ U, ∀ y ∈ g.dep x, y ∈ U) (hr : ∀ r ∈ g.roots, r ∈ U)
  (hfuel : 2 * U.length + 2 ≤ fuel)
include hU hr hfuel

/-- the flattened list of a registered root is what it depends on, directly or not -/
theorem mem_flatDeps_reach {r y : Name} : y ∈ flatDeps g fuel r ↔ r ∈ g.roots ∧ Reach g.dep r y := by
  rw [mem_flatDeps]
  exact and_congr_right fun hrr => mem_sortDeps g.dep U hU fuel hfuel (hr r hrr)

theorem reach_mem_flatDeps {r d : Name} (hrr : r ∈ g.roots) (h : Reach g.dep r d) : d ∈ flatDeps g fuel r :=
  (mem_flatDeps_reach g fuel U hU hr hfuel).mpr ⟨hrr, h⟩

theorem flatDeps_sub {x y : Name} (hx : x ∈ U) (hy : y ∈ flatDeps g fuel x) : y ∈ U :=
  Reach.mem_of_closed g.dep hU hx ((mem_flatDeps_reach g fuel U hU hr hfuel).mp hy).2

theorem flatDeps_trans : Trans (flatDeps g fuel) := by
  intro a b c hb hc
  rw [mem_flatDeps_reach g fuel U hU hr hfuel] at hb hc ⊢
  exact ⟨hb.1, hb.2.trans g.dep hc.2⟩

/-- the order computed by `Roots` lists every node after all its strict flattened dependencies -/
theorem rootsOrder_good (l : List Name) (h : rootsOrder g fuel = some l) : Good (flatDeps g fuel) l := by
  obtain ⟨hcyc, rfl⟩ := rootsOrder_eq_some h
  refine appendNew_good _ _ [] (good_flatMap _ _ _ fun r hrr => ?_)
  exact (sortDeps_spec (flatDeps g fuel) U (fun x hx y => flatDeps_sub g fuel U hU hr hfuel hx) fuel hfuel
    (hr r hrr)).good (flatDeps_trans g fuel U hU hr hfuel) (flatDeps_antisym hcyc)

end registry

end GoaVerif.Eval
