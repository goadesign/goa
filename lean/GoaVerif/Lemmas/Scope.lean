import GoaVerif.Model.Scope
import GoaVerif.Lemmas.List
import Std.Data.String.ToNat
/-! Lemmas for the NameScope model: the two tables as sets of keys, the probing loop (`probe_fresh`: its fuel
is never used up) and `unique_spec`, through which the property theorems use `unique`. -/
namespace GoaVerif.Scope

/-! Both tables of a scope are association lists searched by key with `find?`. -/

theorem get_none_iff (c : Counts) (k : String) : c.get k = none ↔ k ∉ c.keys := by
  rw [Counts.keys, ← find?_key_eq_none, Counts.get]
  split <;> simp [*]

theorem get_isSome_iff (c : Counts) (k : String) : (c.get k).isSome = true ↔ k ∈ c.keys := by
  rw [← Decidable.not_iff_not, ← get_none_iff]; simp

theorem mem_of_lookupName {s : Scope} {h n : String} (hl : lookupName s h = some n) : (h, n) ∈ s.names := by
  unfold lookupName at hl
  split at hl
  · next e hf => cases hl; exact find?_key_eq_some hf
  · cases hl

theorem lookupName_none {s : Scope} {h : String} (hl : lookupName s h = none) : h ∉ s.names.map (·.1) := by
  unfold lookupName at hl
  split at hl
  · cases hl
  · next hf => exact (find?_key_eq_none _ _).mp hf

theorem keys_incr (c : Counts) (k : String) :
    (c.incr k).keys = if k ∈ c.keys then c.keys else c.keys ++ [k] := by
  cases h : c.get k with
  | none =>
    rw [if_neg ((get_none_iff c k).mp h)]
    simp [Counts.incr, h, Counts.keys]
  | some n =>
    rw [if_pos ((get_isSome_iff c k).mp (by rw [h]; rfl))]
    simp only [Counts.incr, h, Counts.keys, List.map_map]
    -- an entry that is counted again keeps its key
    exact List.map_congr_left fun e _ => by simp only [Function.comp]; split <;> rfl

theorem mem_keys_incr (c : Counts) (k x : String) : x ∈ (c.incr k).keys ↔ x ∈ c.keys ∨ x = k := by
  rw [keys_incr]
  split
  · next h => exact ⟨Or.inl, fun hx => hx.elim id fun e => e ▸ h⟩
  · exact List.mem_append.trans (or_congr_right List.mem_singleton)

theorem length_keys (c : Counts) : c.keys.length = c.length := List.length_map _

theorem cand_inj (name : String) (i j : Nat) (h : cand name i = cand name j) : i = j := by
  have := Nat.repr_injective ((String.append_right_inj _).mp h)
  omega

theorem probe_spec (c : Counts) (name : String) (fuel i : Nat) :
    probe c name fuel i ∉ c.keys ∨ ∀ j, j < fuel → cand name (i + j) ∈ c.keys := by
  induction fuel generalizing i with
  | zero => exact .inr fun j hj => absurd hj (Nat.not_lt_zero j)
  | succ n ih =>
    rw [probe]
    split
    · next h =>
      -- `cand name i` is in use; the candidates after it are those of the recursive call
      refine (ih (i + 1)).imp_right fun h1 j hj => ?_
      cases j with
      | zero => exact (get_isSome_iff c _).mp h
      | succ j => rw [Nat.add_comm j 1, ← Nat.add_assoc]; exact h1 j (Nat.lt_of_succ_lt_succ hj)
    · next h => exact .inl fun hm => h ((get_isSome_iff c _).mpr hm)

/-- **The probe always finds a fresh name** with the fuel the model gives it: the candidates
    are pairwise distinct, so they cannot all be among the finitely many names in use. -/
theorem probe_fresh (c : Counts) (name : String) (i : Nat) :
    probe c name (c.length + 1) i ∉ c.keys := by
  rcases probe_spec c name (c.length + 1) i with h | h
  · exact h
  · exfalso
    let cands := (List.range (c.length + 1)).map (fun j => cand name (i + j))
    have hnd : cands.Nodup := by
      refine List.Pairwise.map _ ?_ (List.nodup_range (n := c.length + 1))
      intro a b hab heq
      have := cand_inj name _ _ heq
      omega
    have hsub : cands ⊆ c.keys := by
      intro x hx
      obtain ⟨j, hj, rfl⟩ := List.mem_map.mp hx
      exact h j (List.mem_range.mp hj)
    have := hnd.length_le_of_subset hsub
    simp only [cands, List.length_map, List.length_range, length_keys] at this
    omega

theorem unique_spec (s : Scope) (name : String) (sfx : Option String) :
    (unique s name sfx).2 ∉ s.counts.keys ∧
    (∀ x, x ∈ (unique s name sfx).1.counts.keys ↔ x ∈ s.counts.keys ∨ x = (unique s name sfx).2) ∧
    (unique s name sfx).1.names = s.names := by
  unfold unique
  cases h : s.counts.get name with
  | none =>
    exact ⟨(get_none_iff _ _).mp h, fun x => mem_keys_incr _ _ _, rfl⟩
  | some c =>
    cases sfx with
    | none => exact ⟨probe_fresh _ _ _, fun x => mem_keys_incr _ _ _, rfl⟩
    | some sf =>
      simp only
      cases h2 : s.counts.get (name ++ sf) with
      | none => exact ⟨(get_none_iff _ _).mp h2, fun x => mem_keys_incr _ _ _, rfl⟩
      | some c2 => exact ⟨probe_fresh _ _ _, fun x => mem_keys_incr _ _ _, rfl⟩

end GoaVerif.Scope
