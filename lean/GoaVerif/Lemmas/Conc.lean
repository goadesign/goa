import GoaVerif.Model.Conc
import GoaVerif.Lemmas.List
/-! The lock-discipline invariant of `Model/Conc.lean`, seen thread by thread: `Holds mx i t` is what
`Inv` says of thread `i`. A step of thread `i` is then a fact about `stepThread` alone (no `State`,
no `List.set`): it keeps the mutex table well formed, re-establishes `Holds` for `i`, and leaves
`Holds` of every other thread as it was. -/
namespace GoaVerif.Conc

structure Inv (g : Nat → Nat) (frozen : Nat → Bool) (s : State) : Prop where
  excl : ∀ (i : Nat) (t : Thread), s.threads[i]? = some t → ∀ m ∈ t.E, (s.mx m).writer = some i
  shared : ∀ (i : Nat) (t : Thread), s.threads[i]? = some t → ∀ m, t.S.count m = ((s.mx m).readers).count i
  wr : ∀ (m w : Nat), (s.mx m).writer = some w → (s.mx m).readers = []
  nodup : ∀ (i : Nat) (t : Thread), s.threads[i]? = some t → t.E.Nodup
  disc : ∀ (i : Nat) (t : Thread), s.threads[i]? = some t → wl g frozen t.E t.S t.code = true

/-- what `Inv` says of thread `i`, in state `t`, under the mutex table `mx` -/
structure Holds (g : Nat → Nat) (frozen : Nat → Bool) (mx : Nat → Mutex) (i : Nat) (t : Thread) : Prop where
  excl : ∀ m ∈ t.E, (mx m).writer = some i
  shared : ∀ m, t.S.count m = (mx m).readers.count i
  nodup : t.E.Nodup
  disc : wl g frozen t.E t.S t.code = true

/-- a mutex held exclusively has no readers -/
def WF (mx : Nat → Mutex) : Prop := ∀ m w, (mx m).writer = some w → (mx m).readers = []

variable {g : Nat → Nat} {frozen : Nat → Bool}

theorem inv_iff {s : State} :
    Inv g frozen s ↔ WF s.mx ∧ ∀ i t, s.threads[i]? = some t → Holds g frozen s.mx i t :=
  ⟨fun h => ⟨h.wr, fun i t hi => ⟨h.excl i t hi, h.shared i t hi, h.nodup i t hi, h.disc i t hi⟩⟩,
   fun ⟨hw, h⟩ => ⟨fun i t hi => (h i t hi).excl, fun i t hi => (h i t hi).shared, hw,
     fun i t hi => (h i t hi).nodup, fun i t hi => (h i t hi).disc⟩⟩

theorem setMx_same (mx : Nat → Mutex) (m : Nat) (v : Mutex) : setMx mx m v m = v := if_pos rfl
theorem setMx_other (mx : Nat → Mutex) {m k : Nat} (v : Mutex) (h : k ≠ m) : setMx mx m v k = mx k := if_neg h

/-- a statement about every mutex after `setMx`: about `v` at `m`, about the old table elsewhere -/
theorem forall_setMx {P : Nat → Mutex → Prop} {mx : Nat → Mutex} {m : Nat} {v : Mutex}
    (hm : P m v) (hk : ∀ k, k ≠ m → P k (mx k)) (k : Nat) : P k (setMx mx m v k) := by
  by_cases hkm : k = m
  · rw [hkm, setMx_same]; exact hm
  · rw [setMx_other _ _ hkm]; exact hk k hkm

theorem WF.update {mx : Nat → Mutex} (h : WF mx) (m : Nat) {v : Mutex} (hv : ∀ w, v.writer = some w → v.readers = []) :
    WF (setMx mx m v) :=
  forall_setMx (P := fun _ μ => ∀ w, μ.writer = some w → μ.readers = []) hv fun k _ => h k

/-- Thread `j` in state `t` under `mx`; then mutex `m` is set to `v` and the thread moves to `t'` (`t' = t` for
    a thread that did not move). `t'` must claim at `m` what `v` grants `j`, and at any other mutex no more
    than `t` did. -/
theorem Holds.update {mx : Nat → Mutex} {j : Nat} {t : Thread} (h : Holds g frozen mx j t) (m : Nat) (v : Mutex) (t' : Thread)
    (hm : (m ∈ t'.E → v.writer = some j) ∧ t'.S.count m = v.readers.count j)
    (hk : ∀ k, k ≠ m → (k ∈ t'.E → k ∈ t.E) ∧ t'.S.count k = t.S.count k)
    (hnd : t'.E.Nodup) (hd : wl g frozen t'.E t'.S t'.code = true) :
    Holds g frozen (setMx mx m v) j t' :=
  ⟨forall_setMx (P := fun k μ => k ∈ t'.E → μ.writer = some j) hm.1 fun k hkm hkE => h.excl k ((hk k hkm).1 hkE),
   forall_setMx (P := fun k μ => t'.S.count k = μ.readers.count j) hm.2 fun k hkm => (hk k hkm).2.trans (h.shared k),
   hnd, hd⟩

/-- a thread that did not move keeps what it has if `v` keeps its exclusive hold and its reader entries -/
theorem Holds.frame {mx : Nat → Mutex} {j : Nat} {t : Thread} (h : Holds g frozen mx j t) (m : Nat) (v : Mutex)
    (hw : (mx m).writer = some j → v.writer = some j)
    (hr : v.readers.count j = (mx m).readers.count j) :
    Holds g frozen (setMx mx m v) j t :=
  h.update m v t ⟨fun hm => hw (h.excl m hm), (h.shared m).trans hr.symm⟩ (fun _ _ => ⟨id, rfl⟩) h.nodup h.disc

/-- One step of thread `i`: the table stays well formed, thread `i` holds what its new state says,
    every other thread holds what it held. Each lock instruction sets mutex `m`: `Holds.update` for
    thread `i` (its claim at `m`, its claims elsewhere), `Holds.frame` for the others (exclusive
    hold, reader entries). -/
theorem stepThread_holds {mx mx' : Nat → Mutex} {i : Nat} {t t' : Thread} (hwf : WF mx) (h : Holds g frozen mx i t)
    (hs : stepThread i mx t = (mx', t')) :
    WF mx' ∧ Holds g frozen mx' i t' ∧ ∀ j tj, j ≠ i → Holds g frozen mx j tj → Holds g frozen mx' j tj := by
  have hd := h.disc
  have stay : (mx, t) = (mx', t') →
      WF mx' ∧ Holds g frozen mx' i t' ∧ ∀ j tj, j ≠ i → Holds g frozen mx j tj → Holds g frozen mx' j tj := by
    rintro ⟨⟩; exact ⟨hwf, h, fun _ _ _ hj => hj⟩
  unfold stepThread at hs
  revert hs
  cases hc : t.code with
  | nil => exact stay
  | cons ins rest =>
    rw [hc] at hd
    cases ins with
    | lock m =>
      dsimp only
      split
      · next hfree =>
        rintro ⟨⟩
        refine ⟨hwf.update m (fun _ _ => rfl), h.update m _ _ ⟨fun _ => rfl, ?_⟩ (fun k hkm => ⟨?_, rfl⟩) ?_ hd,
          fun j tj _ hj => hj.frame m _ ?_ ?_⟩
        · rw [h.shared m, hfree.2]
        · exact fun hk => (List.mem_cons.mp hk).resolve_left hkm
        · exact List.nodup_cons.mpr ⟨fun hm => (nomatch hfree.1 ▸ h.excl m hm), h.nodup⟩
        · exact fun hw => nomatch hfree.1 ▸ hw
        · rw [hfree.2]
      · exact stay
    | rlock m =>
      dsimp only
      split
      · next hfree =>
        rintro ⟨⟩
        refine ⟨hwf.update m (fun _ hw => nomatch hw), h.update m _ _ ⟨?_, ?_⟩ (fun k hkm => ⟨id, ?_⟩) h.nodup hd,
          fun j tj hne hj => hj.frame m _ ?_ ?_⟩
        · exact fun hm => nomatch hfree ▸ h.excl m hm
        · rw [List.count_cons_self, List.count_cons_self, h.shared m]
        · exact List.count_cons_of_ne (Ne.symm hkm)
        · exact fun hw => nomatch hfree ▸ hw
        · exact List.count_cons_of_ne (Ne.symm hne)
      · exact stay
    | unlock m =>
      dsimp only
      split
      · next hm =>
        rintro ⟨⟩
        refine ⟨hwf.update m (fun _ hw => nomatch hw),
          h.update m _ _ ⟨?_, h.shared m⟩ (fun k hkm => ⟨List.mem_of_mem_erase, rfl⟩) (h.nodup.erase m) hd,
          fun j tj hne hj => hj.frame m _ ?_ rfl⟩
        · exact fun hm' => absurd hm' h.nodup.not_mem_erase
        · intro hj; rw [h.excl m hm] at hj; exact absurd (Option.some.inj hj).symm hne
      · exact stay
    | runlock m =>
      dsimp only
      split
      · rintro ⟨⟩
        refine ⟨hwf.update m (fun w hw => ?_), h.update m _ _ ⟨h.excl m, ?_⟩ (fun k hkm => ⟨id, ?_⟩) h.nodup hd,
          fun j tj hne hj => hj.frame m _ id ?_⟩
        · show (mx m).readers.erase i = []; rw [hwf m w hw]; rfl
        · rw [List.count_erase_self, List.count_erase_self, h.shared m]
        · exact List.count_erase_of_ne hkm
        · exact List.count_erase_of_ne hne
      · exact stay
    | read x | write x =>
      rintro ⟨⟩
      exact ⟨hwf, ⟨h.excl, h.shared, h.nodup, (Bool.and_eq_true_iff.mp hd).2⟩, fun _ _ _ hj => hj⟩

theorem inv_step (s : State) (i : Nat) (h : Inv g frozen s) : Inv g frozen (step s i) := by
  unfold step
  cases hi : s.threads[i]? with
  | none => exact h
  | some t =>
    obtain ⟨hwf, hall⟩ := inv_iff.mp h
    obtain ⟨hwf', hself, hothers⟩ := stepThread_holds hwf (hall i t hi) rfl
    refine inv_iff.mpr ⟨hwf', fun j tj hj => ?_⟩
    rcases get_set_cases hj with ⟨rfl, rfl⟩ | ⟨hne, hj'⟩
    · exact hself
    · exact hothers j tj hne (hall j tj hj')

theorem inv_run (s : State) (sched : List Nat) (h : Inv g frozen s) : Inv g frozen (run s sched) :=
  List.foldlRecOn sched step h fun s h i _ => inv_step s i h

theorem inv_init (codes : List (List Instr)) (h : ∀ c ∈ codes, wl g frozen [] [] c = true) :
    Inv g frozen (initState codes) := by
  refine inv_iff.mpr ⟨fun m w hw => (nomatch hw), fun i t hi => ?_⟩
  obtain ⟨c, hc, rfl⟩ := List.mem_map.mp (List.mem_of_getElem? hi)
  exact ⟨fun _ hm => (nomatch hm), fun _ => rfl, List.nodup_nil, h c hc⟩

/-- what the discipline says of a thread that is about to access `x` -/
theorem wl_nextAccess {t : Thread} {x : Nat} {w : Bool} (hd : wl g frozen t.E t.S t.code = true)
    (ha : nextAccess t = some (x, w)) :
    if w then frozen x = false ∧ g x ∈ t.E else frozen x = true ∨ g x ∈ t.E ∨ g x ∈ t.S := by
  unfold nextAccess at ha
  cases hc : t.code with
  | nil => rw [hc] at ha; cases ha
  | cons ins rest =>
    rw [hc] at ha hd
    cases ins with
    | read y => cases ha; simpa [or_assoc] using (Bool.and_eq_true_iff.mp hd).1
    | write y => cases ha; simpa using (Bool.and_eq_true_iff.mp hd).1
    | _ => cases ha

/-- a thread about to write `x` excludes every other thread that is about to access `x` -/
theorem no_conflict {mx : Nat → Mutex} {a b x : Nat} {ta tb : Thread} {wb : Bool} (hwf : WF mx) (hab : a ≠ b)
    (Ha : Holds g frozen mx a ta) (Hb : Holds g frozen mx b tb)
    (haa : nextAccess ta = some (x, true)) (hab' : nextAccess tb = some (x, wb)) : False := by
  obtain ⟨hfz, hE⟩ := wl_nextAccess Ha.disc haa
  have hwr := Ha.excl _ hE
  have held : g x ∈ tb.E → False := fun hEb => hab (Option.some.inj (hwr ▸ Hb.excl _ hEb))
  have hb' := wl_nextAccess Hb.disc hab'
  cases wb with
  | true => exact held hb'.2
  | false =>
    rcases hb' with hf | hEb | hSb
    · rw [hfz] at hf; cases hf
    · exact held hEb
    · have hc := Hb.shared (g x)
      rw [hwf _ _ hwr, List.count_nil] at hc
      exact absurd (List.count_pos_iff.mpr hSb) (by omega)

/-- under the invariant no state is a race state -/
theorem inv_no_race (s : State) (h : Inv g frozen s) : ¬ Race s := by
  obtain ⟨hwf, hall⟩ := inv_iff.mp h
  rintro ⟨i, j, ti, tj, x, wi, wj, hne, hi, hj, hai, haj, rfl | rfl⟩
  · exact no_conflict hwf hne (hall _ _ hi) (hall _ _ hj) hai haj
  · exact no_conflict hwf (Ne.symm hne) (hall _ _ hj) (hall _ _ hi) haj hai

/-! ### code made of table accesses -/

/-- from any lock set, the code of one access within policy follows the discipline and gives back
    the lock it took -/
theorem wl_frag (frozen : Nat → Bool) (E S : List Nat) (a : Acc) (r : List Instr)
    (ha : okAcc frozen a = true) (hr : wl id frozen E S r = true) :
    wl id frozen E S (frag a ++ r) = true := by
  obtain ⟨x, w, l⟩ := a
  -- `okAcc` leaves four cases; in each the check of the access is met by `ha` or by the lock `frag` has just
  -- pushed, and erasing that lock again gives back `E`, `S`
  cases w <;> cases l <;> simp [okAcc] at ha <;> simp [frag, wl, ha, hr]

/-- the code of a sequence of table accesses follows the discipline when every access is within policy -/
theorem wl_frags (frozen : Nat → Bool) (E S : List Nat) (accs : List Acc) (h : ∀ a ∈ accs, okAcc frozen a = true) :
    wl id frozen E S (accs.flatMap frag) = true := by
  induction accs with
  | nil => rfl
  | cons a rest ih =>
    rw [List.flatMap_cons]
    exact wl_frag frozen E S a _ (h a (List.mem_cons_self ..)) (ih fun b hb => h b (List.mem_cons_of_mem _ hb))

end GoaVerif.Conc
