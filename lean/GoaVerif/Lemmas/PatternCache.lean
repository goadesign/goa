import GoaVerif.Model.PatternCache
import GoaVerif.Lemmas.List
namespace GoaVerif.PatternCache
variable {R : Type} (W : World R)

theorem lookup_ok (c : Cache R) (h : CacheOK W c) (p : String) (r : R)
    (hl : lookup c p = some r) : r = W.compile p := by
  unfold lookup at hl
  split at hl
  · next e he =>
    cases hl
    have hp := List.find?_some he
    rw [h e (List.mem_of_find?_eq_some he), eq_of_beq hp]
  · cases hl

theorem stepThread_ok (c : Cache R) (t : Thread R) (hc : CacheOK W c) (ht : ThreadOK W t) :
    CacheOK W (stepThread W c t).1 ∧ ThreadOK W (stepThread W c t).2 := by
  obtain ⟨p, v, pc⟩ := t
  unfold stepThread
  cases pc with
  | start =>
    dsimp only
    cases hl : lookup c p with
    | some r => exact ⟨hc, lookup_ok W c hc p r hl⟩
    | none => exact ⟨hc, rfl⟩
  | haveR r needWrite =>
    have hr : r = W.compile p := ht
    cases needWrite with
    | true => exact ⟨fun e he => (List.mem_cons.mp he).elim (· ▸ hr) (hc e), hr⟩
    | false => exact ⟨hc, congrArg (W.isMatch · v) hr⟩
  | done b => exact ⟨hc, ht⟩

theorem step_inv (s : State R) (i : Nat) (h : Inv W s) : Inv W (step W s i) := by
  unfold step
  cases hi : s.threads[i]? with
  | none => exact h
  | some t =>
    obtain ⟨h1, h2⟩ := stepThread_ok W s.cache t h.1 (h.2 t (List.mem_of_getElem? hi))
    exact ⟨h1, fun t' ht' => (List.mem_or_eq_of_mem_set ht').elim (h.2 t') (· ▸ h2)⟩

theorem run_inv (s : State R) (sched : List Nat) (h : Inv W s) : Inv W (run W s sched) :=
  List.foldlRecOn sched (step W) h fun s h i _ => step_inv W s i h

/-- the call (pattern, value) of a thread never changes -/
theorem stepThread_call (c : Cache R) (t : Thread R) :
    ((stepThread W c t).2.p, (stepThread W c t).2.v) = (t.p, t.v) := by
  unfold stepThread
  split
  · split <;> rfl
  all_goals rfl

theorem step_calls (s : State R) (i : Nat) :
    (step W s i).threads.map (fun t => (t.p, t.v)) = s.threads.map (fun t => (t.p, t.v)) := by
  unfold step
  cases hi : s.threads[i]? with
  | none => rfl
  | some t => exact map_set_of_eq _ hi (stepThread_call W s.cache t).symm

theorem run_calls (s : State R) (sched : List Nat) :
    (run W s sched).threads.map (fun t => (t.p, t.v)) = s.threads.map (fun t => (t.p, t.v)) :=
  List.foldlRecOn (motive := fun s' => s'.threads.map (fun t => (t.p, t.v)) = s.threads.map fun t => (t.p, t.v))
    sched (step W) rfl fun s' h i _ => (step_calls W s' i).trans h

end GoaVerif.PatternCache
