import GoaVerif.Model.StatusConst
import GoaVerif.Lemmas.StrKey
/-!
# `tableOK` in a form the kernel evaluates cheaply
-/
namespace GoaVerif.StatusConst

/-- `tableOK` on numeric keys: every name is turned into its key once -/
def tableOKByKey (table : List (Nat × String)) (env : List (String × Nat)) : Bool :=
  let env' := env.map fun p => (strKey p.1, p.2)
  table.all fun e => env'.lookup (strKey e.2) == some e.1

theorem tableOKByKey_eq (table : List (Nat × String)) (env : List (String × Nat)) :
    tableOKByKey table env = tableOK table env := by
  simp only [tableOKByKey, tableOK, lookup_strKey]

end GoaVerif.StatusConst
