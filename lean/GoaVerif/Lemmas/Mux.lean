import GoaVerif.Model.Mux
/-! Byte-level lemmas for C16. Everything about escaping is proved for `escapeWith f` with the
predicate `f` a variable; the two modes of net/url enter only at the end, through what they do to
`%` and `/`. -/
namespace GoaVerif.Mux

/-! ### hex digits -/

/-- the table of the sixteen hex digits -/
theorem hex_digit (n : UInt8) (h : n < 16) : unhex (hexUpper n) = some n ∧ hexUpper n ≠ slash := by
  have table : ∀ k : Fin 16,
      unhex (hexUpper (.ofNat k)) = some (.ofNat k) ∧ hexUpper (.ofNat k) ≠ slash := by decide +kernel
  have := table ⟨n.toNat, UInt8.lt_iff_toNat_lt.mp h⟩
  rwa [UInt8.ofNat_toNat] at this

theorem div16_lt (c : UInt8) : c / 16 < 16 := by
  have := c.toNat_lt
  simp only [UInt8.lt_iff_toNat_lt, UInt8.toNat_div, UInt8.reduceToNat]
  omega

theorem mod16_lt (c : UInt8) : c % 16 < 16 := UInt8.mod_lt c (by decide)

theorem div16_mul_add_mod16 (c : UInt8) : (c / 16) * 16 + c % 16 = c := by
  have := c.toNat_lt
  apply UInt8.toNat_inj.mp
  simp only [UInt8.toNat_add, UInt8.toNat_mul, UInt8.toNat_div, UInt8.toNat_mod, UInt8.reduceToNat]
  omega

/-! ### `escapeWith` -/

theorem escapeWith_cons (f : UInt8 → Bool) (c : UInt8) (r : Bytes) :
    escapeWith f (c :: r) = (if f c then escByte c else [c]) ++ escapeWith f r :=
  List.flatMap_cons

theorem escapeWith_append (f : UInt8 → Bool) (a b : Bytes) :
    escapeWith f (a ++ b) = escapeWith f a ++ escapeWith f b :=
  List.flatMap_append

theorem escapeWith_of_false (f : UInt8 → Bool) (l : Bytes) (h : ∀ c ∈ l, f c = false) :
    escapeWith f l = l := by
  induction l with
  | nil => rfl
  | cons c r ih =>
    rw [escapeWith_cons, h c List.mem_cons_self, ih fun x hx => h x (List.mem_cons_of_mem _ hx)]
    rfl

theorem escapeWith_eq_nil (f : UInt8 → Bool) (v : Bytes) (h : escapeWith f v = []) : v = [] := by
  cases v with
  | nil => rfl
  | cons c r =>
    rw [escapeWith_cons, escByte] at h
    split at h <;> cases h

theorem percent_ne_slash : percent ≠ slash := by decide

theorem slash_not_mem_escapeWith (f : UInt8 → Bool) (hs : f slash = true) (v : Bytes) :
    slash ∉ escapeWith f v := by
  induction v with
  | nil => exact List.not_mem_nil
  | cons c r ih =>
    rw [escapeWith_cons, List.mem_append, not_or]
    refine ⟨?_, ih⟩
    split
    · simp only [escByte, List.mem_cons, List.not_mem_nil, or_false, not_or]
      exact ⟨percent_ne_slash.symm, (hex_digit _ (div16_lt c)).2.symm, (hex_digit _ (mod16_lt c)).2.symm⟩
    · rename_i hc
      exact fun h => hc (List.mem_singleton.mp h ▸ hs)

theorem agree_of_escapeWith_eq (f g : UInt8 → Bool) (hf : f percent = true) (hg : g percent = true)
    (v : Bytes) (h : escapeWith f v = escapeWith g v) : ∀ c ∈ v, f c = g c := by
  induction v with
  | nil => exact fun _ hc => nomatch hc
  | cons c r ih =>
    have hc : f c = g c := by
      by_cases hp : c = percent
      · rw [hp, hf, hg]
      · -- the text starts with `%` exactly if the mode escapes `c`
        have head (k : UInt8 → Bool) : k c = ((escapeWith k (c :: r)).head? == some percent) := by
          rw [escapeWith_cons]
          cases k c
          · exact (beq_false_of_ne fun e => hp (Option.some.inj e)).symm
          · rfl
        rw [head f, head g, h]
    rw [escapeWith_cons, escapeWith_cons, hc] at h
    intro x hx
    rcases List.mem_cons.mp hx with rfl | hx
    · exact hc
    · exact ih (List.append_cancel_left h) x hx

/-! ### `unescape` -/

theorem unescape_cons_ne (c : UInt8) (rest : Bytes) (h : c ≠ percent) :
    unescape (c :: rest) = (unescape rest).map (fun r => c :: r) := by
  rw [unescape.eq_def]; exact if_neg (by rwa [beq_iff_eq])

theorem unescape_percent (a b x y : UInt8) (rest : Bytes) (ha : unhex a = some x) (hb : unhex b = some y) :
    unescape (percent :: a :: b :: rest) = (unescape rest).map (fun r => (x * 16 + y) :: r) := by
  rw [unescape.eq_def]; simp only [beq_self_eq_true, if_true, ha, hb]

theorem unescape_escapeWith (f : UInt8 → Bool) (hp : f percent = true) (v : Bytes) :
    unescape (escapeWith f v) = some v := by
  induction v with
  | nil => rfl
  | cons c r ih =>
    rw [escapeWith_cons]
    split
    · rw [escByte, List.cons_append, List.cons_append, List.cons_append, List.nil_append,
        unescape_percent _ _ _ _ _ (hex_digit _ (div16_lt c)).1 (hex_digit _ (mod16_lt c)).1, ih,
        div16_mul_add_mod16]
      rfl
    · rename_i hc
      rw [List.cons_append, List.nil_append, unescape_cons_ne _ _ fun e => hc (e ▸ hp :), ih]
      rfl

theorem unescape_append_of_not_mem (l s : Bytes) (h : percent ∉ l) :
    unescape (l ++ s) = (unescape s).map (l ++ ·) := by
  induction l with
  | nil => simp
  | cons c r ih =>
    rw [List.cons_append, unescape_cons_ne _ _ fun e => h (e ▸ List.mem_cons_self),
      ih fun hm => h (List.mem_cons_of_mem _ hm)]
    cases unescape s <;> rfl

/-! ### the matcher: `splitSlash`, `matchSegs`, `dispatch` -/

theorem splitSlash_cons_ne (c : UInt8) (cs : Bytes) (h : c ≠ slash) :
    splitSlash (c :: cs) = match splitSlash cs with | [] => [[c]] | f :: fs => (c :: f) :: fs :=
  if_neg (by rwa [beq_iff_eq])

theorem splitSlash_lit (l x : Bytes) (h : slash ∉ l) :
    splitSlash (l ++ slash :: x) = l :: splitSlash x := by
  induction l with
  | nil => exact if_pos (beq_self_eq_true _)
  | cons c r ih =>
    rw [List.cons_append, splitSlash_cons_ne _ _ fun e => h (e ▸ List.mem_cons_self),
      ih fun hm => h (List.mem_cons_of_mem _ hm)]

theorem splitSlash_noslash (x : Bytes) (h : slash ∉ x) : splitSlash x = [x] := by
  induction x with
  | nil => rfl
  | cons c r ih =>
    rw [splitSlash_cons_ne _ _ fun e => h (e ▸ List.mem_cons_self), ih fun hm => h (List.mem_cons_of_mem _ hm)]

theorem matchSegs_lit (s : Bytes) (ps : Pattern) (segs : List Bytes) :
    matchSegs (.lit s :: ps) (s :: segs) = matchSegs ps segs :=
  if_pos (beq_self_eq_true s)

theorem dispatch_singleton (r : Route) (rest : Bytes) :
    dispatch [r] r.method (slash :: rest) =
      (matchSegs r.pattern (splitSlash rest)).map fun caps => (r, caps) := by
  unfold dispatch
  simp only [bne_self_eq_false, Bool.false_eq_true, if_false, List.filterMap_cons, List.filterMap_nil,
    beq_self_eq_true, if_true]
  cases matchSegs r.pattern (splitSlash rest) <;> rfl

/-! ### the two modes of net/url -/

theorem seg_percent : shouldEscapeSeg percent = true := by decide
theorem path_percent : shouldEscapePath percent = true := by decide
theorem seg_slash : shouldEscapeSeg slash = true := by decide
theorem path_slash : shouldEscapePath slash = false := by decide

theorem unescape_pathEscape (v : Bytes) : unescape (pathEscape v) = some v :=
  unescape_escapeWith _ seg_percent v

theorem unescape_escapePath (v : Bytes) : unescape (escapePath v) = some v :=
  unescape_escapeWith _ path_percent v

theorem no_slash_pathEscape (v : Bytes) : slash ∉ pathEscape v :=
  slash_not_mem_escapeWith _ seg_slash v

/-- The hypothesis is the case in which the server leaves `RawPath` empty. -/
theorem no_slash_of_escapes_agree (v : Bytes) (h : escapePath v = pathEscape v) : slash ∉ v :=
  fun hm => by
    have := agree_of_escapeWith_eq _ _ path_percent seg_percent v h slash hm
    rw [path_slash, seg_slash] at this
    exact Bool.false_ne_true this

/-- bytes other than `/` that path-mode escaping leaves alone (letters, digits, `-_.~`, `;`, …;
    `c ≠ percent` follows from the first conjunct, see `path_percent`) -/
def Clean (l : Bytes) : Prop := ∀ c ∈ l, shouldEscapePath c = false ∧ c ≠ percent ∧ c ≠ slash

theorem escapePath_clean (l : Bytes) (h : Clean l) : escapePath l = l :=
  escapeWith_of_false _ l fun c hc => (h c hc).1

/-- A prefix `pre` that path-mode escaping leaves alone (so it holds no `%`) passes through
    `URL.setPath` untouched, in front of what becomes of the escaped value. -/
theorem setPath_prefix (pre v : Bytes) (hpre : ∀ c ∈ pre, shouldEscapePath c = false) :
    setPath (pre ++ pathEscape v) =
      some (pre ++ v, if escapePath v = pathEscape v then [] else pre ++ pathEscape v) := by
  have hpct : percent ∉ pre := fun hm => by
    have := hpre _ hm
    rw [path_percent] at this
    cases this
  have hun : unescape (pre ++ pathEscape v) = some (pre ++ v) := by
    rw [unescape_append_of_not_mem _ _ hpct, unescape_pathEscape]; rfl
  have hesc : escapePath (pre ++ v) = pre ++ escapePath v := by
    rw [escapePath, escapeWith_append, escapeWith_of_false _ _ hpre]
  simp only [setPath, hun, hesc, beq_iff_eq, List.append_cancel_left_eq]

end GoaVerif.Mux
