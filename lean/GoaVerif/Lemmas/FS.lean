import GoaVerif.Model.FS
/-! Pointwise description of the file-system operations of `Model/FS.lean`. -/
namespace GoaVerif.FS

theorem get_put (fs : FS) (p q : Path) (c : Cell) :
    get (put fs p c) q = if q = p then some c else get fs q := by
  rw [get, put, List.lookup_cons]
  by_cases h : q = p
  · rw [if_pos h, beq_iff_eq.mpr h]
  · rw [if_neg h, beq_false_of_ne h]; rfl

theorem get_removeWhere (fs : FS) (pred : Path → Bool) (q : Path) :
    get (removeWhere fs pred) q = if pred q then none else get fs q := by
  induction fs with
  | nil => cases pred q <;> rfl
  | cons e rest ih =>
    -- an entry is dropped, or put back on top of the filtered rest
    have hr : removeWhere (e :: rest) pred =
        if pred e.1 then removeWhere rest pred else put (removeWhere rest pred) e.1 e.2 := by
      cases hk : pred e.1 <;> simp [removeWhere, put, hk]
    rw [hr, show e :: rest = put rest e.1 e.2 from rfl, get_put]
    by_cases h : q = e.1
    · subst h; cases hk : pred e.1 <;> simp [get_put, ih, hk]
    · rw [if_neg h]; split
      · exact ih
      · rw [get_put, if_neg h, ih]

theorem get_render (fmt : String → String) (fs : FS) (f : File) (q : Path) :
    get (render fmt fs f) q = if q = f.path then some (renderCell fmt f (get fs f.path)) else get fs q := by
  unfold render; exact get_put ..

theorem get_cleanup (fs : FS) (q : Path) :
    get (cleanup fs) q = if underGenSub q then none else get fs q := get_removeWhere ..

theorem get_edit (fs : FS) (p : Path) (s : String) (q : Path) :
    get (edit fs p s) q =
      if q = p then some (match get fs p with | some old => ⟨s, old.writes + 1⟩ | none => ⟨s, 0⟩) else get fs q := by
  unfold edit; exact get_put ..

/-- The directory is a product of independent cells: `renderAll` acts on the cell at `q` by
    folding, in order, over the files that name `q`. -/
theorem get_renderAll (fmt : String → String) (files : List File) (fs : FS) (q : Path) :
    get (renderAll fmt files fs) q =
      (files.filter (·.path == q)).foldl (fun c f => some (renderCell fmt f c)) (get fs q) := by
  induction files generalizing fs with
  | nil => rfl
  | cons f rest ih =>
    rw [renderAll, List.foldl_cons, ← renderAll, ih, get_render, List.filter_cons]
    by_cases h : q = f.path
    · subst h; simp
    · simp [h, Ne.symm h]

theorem get_gen (fmt : String → String) (files : List File) (fs : FS) (q : Path) :
    get (gen fmt files fs) q =
      (files.filter (·.path == q)).foldl (fun c f => some (renderCell fmt f c))
        (if underGenSub q then none else get fs q) := by
  rw [gen, get_renderAll, get_cleanup]

theorem run_append (fmt : String → String) (g e : List File) (ops₁ ops₂ : List Op) (fs : FS) :
    run fmt g e (ops₁ ++ ops₂) fs = run fmt g e ops₂ (run fmt g e ops₁ fs) :=
  List.foldl_append

theorem get_renderAll_frame (fmt : String → String) (files : List File) (fs : FS) (q : Path)
    (h : ∀ f ∈ files, f.path ≠ q) : get (renderAll fmt files fs) q = get fs q := by
  rw [get_renderAll, List.filter_eq_nil_iff.mpr fun f hf => by rw [beq_iff_eq]; exact h f hf]; rfl

theorem get_renderAll_skip (fmt : String → String) (files : List File) (fs : FS) (q : Path) (c : Cell)
    (hs : ∀ f ∈ files, f.skipExist = true) (h : get fs q = some c) :
    get (renderAll fmt files fs) q = some c := by
  rw [get_renderAll, h]
  induction files with
  | nil => rfl
  | cons f rest ih =>
    have hr := ih fun g hg => hs g (List.mem_cons_of_mem _ hg)
    rw [List.filter_cons]
    split
    · rwa [List.foldl_cons, renderCell, if_pos (hs f List.mem_cons_self)]
    · exact hr

theorem filter_path_eq_singleton {files : List File} {f : File} (hf : f ∈ files)
    (hd : files.Pairwise (fun a b => a.path ≠ b.path)) : files.filter (·.path == f.path) = [f] := by
  induction hd with
  | nil => cases hf
  | @cons g rest hg _ ih =>
    rw [List.filter_cons]
    rcases List.mem_cons.mp hf with rfl | hin
    · rw [if_pos (beq_self_eq_true _),
        List.filter_eq_nil_iff.mpr fun x hx => by rw [beq_iff_eq]; exact (hg x hx).symm]
    · rw [if_neg (by rw [beq_iff_eq]; exact hg f hin), ih hin]

end GoaVerif.FS
