import GoaVerif.Model.ErrorMap
/-!
# What the definitions of `Model/ErrorMap.lean` do, case by case
-/
namespace GoaVerif.ErrorMap

theorem lookup_name {n : String} {l : List HErr} {h : HErr} (hl : lookup n l = some h) : h.name = n := by
  simpa using List.find?_some hl

theorem lookup_mem {n : String} {l : List HErr} {h : HErr} (hl : lookup n l = some h) : h ∈ l :=
  List.mem_of_find?_eq_some hl

theorem lookup_append (n : String) (a b : List HErr) :
    lookup n (a ++ b) = (lookup n a).or (lookup n b) := by
  simp [lookup, List.find?_append]

theorem lookup_eq_none {n : String} {l : List HErr} : lookup n l = none ↔ ∀ h ∈ l, h.name ≠ n := by
  simp [lookup]

/-- `inherited` is the service's mapping of the name, else the API's, as a list of at most one -/
theorem inherited_eq (c : Ctx) (n : String) :
    inherited c n = ((lookup n c.svcHTTP).or (lookup n c.apiHTTP)).toList := by
  unfold inherited
  cases lookup n c.svcHTTP <;> cases lookup n c.apiHTTP <;> rfl

theorem inherited_name {c : Ctx} {n : String} {h : HErr} (hh : h ∈ inherited c n) : h.name = n := by
  rw [inherited_eq, Option.mem_toList, Option.or_eq_some_iff] at hh
  rcases hh with hh | ⟨-, hh⟩ <;> exact lookup_name hh

theorem lookup_inherited_self (c : Ctx) (n : String) : lookup n (inherited c n) = (inherited c n).head? := by
  cases hi : inherited c n with
  | nil => rfl
  | cons h t => simp [lookup, inherited_name (hi ▸ List.mem_cons_self : h ∈ inherited c n)]

theorem lookup_inherited_other (c : Ctx) (n m : String) (hne : m ≠ n) : lookup n (inherited c m) = none :=
  lookup_eq_none.mpr fun _ hh => inherited_name hh ▸ hne

/-- every entry the walk produces is for a name not claimed before -/
theorem walk_unseen (c : Ctx) (errs seen : List String) :
    ∀ h ∈ (walkMethodErrs c errs seen).1, h.name ∉ seen := by
  fun_induction walkMethodErrs c errs seen with
  | case1 => simp
  | case2 me rest seen hc ih => exact ih
  | case3 me rest seen hc t seen' hw ih =>
    intro h hh
    rcases List.mem_append.mp hh with hh | hh
    · rw [inherited_name hh]; simpa using hc
    · rw [hw] at ih; exact fun hs => ih h hh (List.mem_cons_of_mem _ hs)

/-- walking the method errors: a name not yet claimed gets exactly its inherited mapping -/
theorem walk_lookup (c : Ctx) (n : String) (errs seen : List String)
    (hin : n ∈ errs) (hseen : n ∉ seen) :
    lookup n (walkMethodErrs c errs seen).1 = (inherited c n).head? := by
  fun_induction walkMethodErrs c errs seen with
  | case1 => cases hin
  | case2 me rest seen hc ih =>
    have hne : n ≠ me := fun e => hseen (e ▸ List.contains_iff_mem.mp hc)
    exact ih (by simpa [hne] using hin) hseen
  | case3 me rest seen hc t seen' hw ih =>
    rw [hw] at ih
    rw [lookup_append]
    by_cases he : n = me
    · subst he
      -- nothing inherited or not, the name is now claimed: the rest of the walk adds nothing for it
      have : lookup n t = none := lookup_eq_none.mpr fun h hh e =>
        walk_unseen c rest (n :: seen) h (hw ▸ hh) (e ▸ List.mem_cons_self)
      rw [lookup_inherited_self, this, Option.or_none]
    · rw [lookup_inherited_other c n me (Ne.symm he), Option.none_or]
      exact ih (by simpa [he] using hin) (by simpa [he] using hseen)

end GoaVerif.ErrorMap
