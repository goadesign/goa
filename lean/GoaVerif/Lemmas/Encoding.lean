import GoaVerif.Model.Encoding
import GoaVerif.Lemmas.List
/-!
# What the definitions of `Model/Encoding.lean` do, case by case
The five media types goa names are one table, `named`: `negotiate` and the request decoder's switch are
lookups in it, and the suffix switch agrees with it on its rows.
-/
namespace GoaVerif.Encoding

/-- the media types goa names, each with its codec -/
def named : List (String × Fmt) :=
  [("application/json", .json), ("application/xml", .xml), ("application/gob", .gob),
   ("text/html", .text), ("text/plain", .text)]

theorem named_bySuffix : ∀ p ∈ named, p.1 ≠ "" ∧ bySuffix p.1 = p.2 := by decide +kernel

theorem reqTable_unsupported {ct : String} (h : ct ∉ named.map (·.1)) : reqTable ct = .unsupported ct := by
  simp [named] at h
  simp [reqTable, h]

/-- `RequestDecoder`'s switch is a lookup in the table: on the five names by evaluation, off them no case
    of the switch applies -/
theorem reqTable_eq (ct : String) :
    reqTable ct = match named.lookup ct with | some f => .fmt f | none => .unsupported ct := by
  by_cases h : ct ∈ named.map (·.1)
  · revert ct; decide +kernel
  · rw [reqTable_unsupported h, lookup_eq_none_of_not_mem h]

theorem reqTable_fmt {ct : String} {f : Fmt} (h : reqTable ct = .fmt f) : (ct, f) ∈ named := by
  rw [reqTable_eq] at h
  cases hl : named.lookup ct with
  | none => rw [hl] at h; cases h
  | some g => rw [hl] at h; cases h; exact mem_of_lookup hl

theorem negotiate_unnamed {a : String} (h : a ∉ "" :: named.map (·.1)) : negotiate a = (none, "") := by
  simp [named] at h
  simp [negotiate, h]

/-- so is `negotiate`, an empty Accept value standing for JSON -/
theorem negotiate_eq (a : String) :
    negotiate a =
      let k := if a = "" then "application/json" else a
      match named.lookup k with | some f => (some f, k) | none => (none, "") := by
  by_cases h : a ∈ "" :: named.map (·.1)
  · revert a; decide +kernel
  · rw [negotiate_unnamed h]
    rw [List.mem_cons, not_or] at h
    simp only [if_neg h.1, lookup_eq_none_of_not_mem h.2]

theorem negotiate_named {a m : String} {f : Fmt} (h : negotiate a = (some f, m)) : (m, f) ∈ named := by
  rw [negotiate_eq] at h
  cases hl : named.lookup (if a = "" then "application/json" else a) with
  | none => simp only [hl] at h; cases h
  | some g => simp only [hl] at h; cases h; exact mem_of_lookup hl

theorem normCT_of_ok {pm : PM} {s mt : String} (h : pm s = (mt, true)) : normCT pm s = mt := by
  simp [normCT, h]

theorem setContentType_empty (m : String) : setContentType "" m = m := by
  simp [setContentType]

/-- with a designed content type nothing is negotiated -/
theorem responseEncoder_designed (pm : PM) (accept : String) {ct : String} (preset : String) (h : ct ≠ "") :
    responseEncoder pm accept ct preset =
      if (pm ct).2 then (some (bySuffix (pm ct).1), setContentType preset (pm ct).1)
      else (some .json, setContentType preset "application/json") := by
  simp [responseEncoder, h]

/-- without one, the encoder and the media type announced are one row of `named` -/
theorem responseEncoder_negotiated (pm : PM) (accept preset : String) :
    ∃ p ∈ named, responseEncoder pm accept "" preset = (some p.2, setContentType preset p.1) := by
  have json : ("application/json", Fmt.json) ∈ named := .head _
  have neg : ∀ {a f}, (negotiate a).1 = some f → ((negotiate a).2, f) ∈ named :=
    fun h => negotiate_named (Prod.ext h rfl)
  unfold responseEncoder
  rw [if_neg (by decide)]
  split
  · exact ⟨_, neg ‹_›, rfl⟩
  · split
    · split
      · exact ⟨_, neg ‹_›, rfl⟩
      · exact ⟨_, json, rfl⟩
    · exact ⟨_, json, rfl⟩

end GoaVerif.Encoding
