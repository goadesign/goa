import GoaVerif.Model.Middleware
/-!
# What the definitions of `Model/Middleware.lean` do, case by case
-/
namespace GoaVerif.Middleware

theorem generateRequestID_ne_nil (o : RIDOpts) (ctxID : Option Bytes) {fresh : Bytes} (hf : fresh ≠ []) :
    generateRequestID o ctxID fresh ≠ [] := by
  unfold generateRequestID
  extract_lets id
  split <;> assumption

theorem generateRequestID_fresh {o : RIDOpts} {ctxID : Option Bytes} (fresh : Bytes)
    (h : o.use = false ∨ ctxID = none) : generateRequestID o ctxID fresh = fresh := by
  unfold generateRequestID
  rcases h with h | h <;> simp [h]

/-- a non-empty identifier cut to a positive limit is still non-empty, so it is the one used -/
theorem generateRequestID_some {o : RIDOpts} {i : Bytes} (fresh : Bytes) (hu : o.use = true) (hi : i ≠ []) :
    generateRequestID o (some i) fresh =
      if o.limit > 0 ∧ (i.length : Int) > o.limit then i.take o.limit.toNat else i := by
  suffices h : (if o.limit > 0 ∧ (i.length : Int) > o.limit then i.take o.limit.toNat else i) ≠ [] by
    simp only [generateRequestID, hu, if_true, if_neg h]
  split
  · exact fun h => (List.take_eq_nil_iff.mp h).elim (by omega) hi
  · exact hi

/-- a traced hop hands its trace ID and its span to the next -/
theorem chain_traced {hT hP : Bytes} {sampled : Nat → Bool} {ids : Nat → Bytes × Bytes} {k : Nat} {s : Span}
    (h : trace hT hP false (sampled k) (ids k).1 (ids k).2 = some s) (n : Nat) :
    chain hT hP sampled ids k (n + 1) = some s :: chain s.trace s.span sampled ids (k + 1) n := by
  rw [chain, h]; rfl

end GoaVerif.Middleware
