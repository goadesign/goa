import GoaVerif.Model.Security
/-!
# What the definitions of `Model/Security.lean` do, case by case
-/
namespace GoaVerif.Security

/-- the callbacks that run are those of the schemes up to and including the first that refuses -/
theorem evalReq_eq (accept : String → Bool) (r : Req) :
    evalReq accept r = (r.takeWhile accept ++ (r.find? (!accept ·)).toList, r.find? (!accept ·)) := by
  induction r with
  | nil => rfl
  | cons s rest ih =>
    rw [evalReq, ih, List.find?_cons, List.takeWhile_cons]
    cases accept s <;> rfl

theorem evalReq_none_iff (accept : String → Bool) (r : Req) :
    (evalReq accept r).2 = none ↔ ∀ s ∈ r, accept s = true := by
  simp [evalReq_eq]

theorem evalReq_some (accept : String → Bool) (r : Req) (f : String) (h : (evalReq accept r).2 = some f) :
    f ∈ r ∧ accept f = false := by
  rw [evalReq_eq] at h
  exact ⟨List.mem_of_find?_eq_some h, by simpa using List.find?_some h⟩

theorem evalReq_calls (accept : String → Bool) (r : Req) : ∀ s ∈ (evalReq accept r).1, s ∈ r := by
  intro s hs
  rw [evalReq_eq] at hs
  rcases List.mem_append.mp hs with hs | hs
  · exact (List.takeWhile_sublist _).subset hs
  · exact List.mem_of_find?_eq_some (Option.mem_toList.mp hs)

theorem afterFirstSpace_prefix (p t : List Char) (hp : ' ' ∉ p) : afterFirstSpace (p ++ ' ' :: t) = t := by
  induction p with
  | nil => simp [afterFirstSpace]
  | cons c cs ih =>
    have hc : c ≠ ' ' := by intro e; apply hp; simp [e]
    have : ' ' ∉ cs := by intro e; apply hp; simp [e]
    simp [afterFirstSpace, hc, ih this]

theorem stripField_map (f : String) (p : Fields) :
    stripField f p = p.map (fun gv => (gv.1, if gv.1 == f then credential true gv.2 else gv.2)) := by
  induction p with
  | nil => rfl
  | cons gv rest ih => obtain ⟨g, v⟩ := gv; simp [stripField, ih]

theorem mem_appendCred (l : List String) (f g : String) : g ∈ appendCred l f ↔ g ∈ l ∨ g = f := by
  unfold appendCred; split <;> simp_all

theorem nodup_appendCred (l : List String) (f : String) (h : l.Nodup) : (appendCred l f).Nodup := by
  unfold appendCred; split
  · exact h
  · next hf =>
    refine List.nodup_append.mpr ⟨h, by simp, fun a ha b hb e => hf ?_⟩
    rw [List.mem_singleton.mp hb] at e
    exact List.contains_iff_mem.mpr (e ▸ ha)

theorem appendCred_fold (fs acc : List String) (hacc : acc.Nodup) :
    (fs.foldl appendCred acc).Nodup ∧ ∀ g, g ∈ fs.foldl appendCred acc ↔ g ∈ acc ∨ g ∈ fs := by
  induction fs generalizing acc with
  | nil => simp [hacc]
  | cons f rest ih =>
    have := ih _ (nodup_appendCred acc f hacc)
    exact ⟨this.1, fun g => by rw [List.foldl_cons, this.2, mem_appendCred, List.mem_cons, or_assoc]⟩

end GoaVerif.Security
