/-!
# Strings as numbers, for tables that are checked by evaluation
Comparing two string literals is dear for the kernel: each is first turned into its UTF-8 bytes, about
as much work as a thousand comparisons of numerals. A check that looks names up in a table compares
each name with many others. `strKey` turns a string into a number that determines it, so that a table
can be re-keyed once and the same lookup run on numbers.
-/
namespace GoaVerif

/-- a list of bytes as a numeral in bijective base 257 -/
def bytesKey : List UInt8 → Nat
  | [] => 0
  | b :: bs => b.toNat + 1 + 257 * bytesKey bs

theorem bytesKey_inj : ∀ {a b : List UInt8}, bytesKey a = bytesKey b → a = b
  | [], [], _ => rfl
  | [], _ :: _, h | _ :: _, [], h => by simp only [bytesKey] at h; omega
  | x :: a, y :: b, h => by
    have hx := x.toNat_lt; have hy := y.toNat_lt
    simp only [bytesKey] at h
    obtain ⟨h1, h2⟩ : x.toNat = y.toNat ∧ bytesKey a = bytesKey b := by omega
    rw [UInt8.toNat_inj.mp h1, bytesKey_inj h2]

def strKey (s : String) : Nat := bytesKey s.toByteArray.data.toList

theorem strKey_inj {s t : String} (h : strKey s = strKey t) : s = t :=
  String.toByteArray_inj.mp (ByteArray.ext (Array.toList_inj.mp (bytesKey_inj h)))

/-- looking a name up is looking its key up in the re-keyed table -/
theorem lookup_strKey {β} (l : List (String × β)) (n : String) :
    (l.map fun p => (strKey p.1, p.2)).lookup (strKey n) = l.lookup n := by
  induction l with
  | nil => rfl
  | cons p r ih =>
    obtain ⟨m, c⟩ := p
    have : (strKey n == strKey m) = (n == m) :=
      Bool.eq_iff_iff.mpr (by simp only [beq_iff_eq]; exact ⟨strKey_inj, congrArg strKey⟩)
    simp only [List.map_cons, List.lookup_cons, this, ih]

end GoaVerif
